import RSocketModel.Credit
import RSocketModel.Proofs.Run
import RSocketModel.Proofs.Basic
/-!
The credit-driven stream source (`Credit.lean`) as a set of transition rules, and its two invariants:
credit accounting with order (`Inv`, C06) and "exactly one terminal item, last" (`TInv`, C08).
Every proof about the source goes through `step_cases`; none unfolds `step`.
`Proofs.Basic` is imported for what it brings into scope: `Inv` sums a `List Nat`, and the `Zero Nat`
that `List.sum` is given there is Mathlib's when Mathlib is loaded, as it is wherever `Inv` is used.
-/
namespace RSocketModel.Credit

variable {α : Type}

/-- an item that ends the stream: an element flagged complete, the bare completion, the error -/
def Item.isTerminal : Item α → Bool
  | .elem _ c => c
  | .complete => true
  | .error => true

/-- the terminal signal the subscriber holds once the item was delivered to it -/
def Item.signal : Item α → Option Bool → Option Bool
  | .elem _ c, t => if c then some true else t
  | .complete, _ => some true
  | .error, _ => some false

/-- what a producer holding credit puts out next -/
def nextItem (s : State α) : Item α :=
  match s.src with
  | x :: rest => .elem x (rest.isEmpty && s.flagged)
  | [] => if s.failing then .error else .complete

theorem Item.signal_of_not_terminal {i : Item α} (h : i.isTerminal = false) (t : Option Bool) : i.signal t = t := by
  cases i <;> simp_all [Item.isTerminal, Item.signal]

theorem Item.signal_of_terminal {i : Item α} (h : i.isTerminal = true) (t : Option Bool) : i.signal t ≠ none := by
  cases i <;> simp_all [Item.isTerminal, Item.signal]

theorem elems_append (a b : List (Item α)) : elems (a ++ b) = elems a ++ elems b := by
  induction a with
  | nil => rfl
  | cons x xs ih => cases x <;> simp [elems, ih]

theorem elems_cons (i : Item α) (q : List (Item α)) : elems (i :: q) = elems [i] ++ elems q :=
  elems_append [i] q

theorem elems_single_le (i : Item α) : (elems [i]).length ≤ 1 := by cases i <;> simp [elems]

theorem elems_nextItem (s : State α) : elems [nextItem s] ++ s.src.tail = s.src := by
  unfold nextItem; split <;> (try split) <;> simp_all [elems]

theorem step_cancelled (s : State α) (h : s.cancelled = true) (e : Ev) : step s e = s := by
  cases e <;> simp [step, h]
  cases s; simp_all

theorem step_produce (s : State α) (hc : s.cancelled = false) (hd : s.producerDone = false) (h0 : s.cur ≠ 0) :
    step s .produce = { s with src := s.src.tail, cur := s.cur - (elems [nextItem s]).length,
                               outQ := s.outQ ++ [nextItem s], producerDone := (nextItem s).isTerminal } := by
  cases hs : s.src <;> cases hf : s.failing <;> simp [step, hc, hd, h0, hs, hf, nextItem, elems, Item.isTerminal]

theorem step_feed (s : State α) (hc : s.cancelled = false) (i : Item α) (rest : List (Item α)) (hq : s.outQ = i :: rest) :
    step s .feed = { s with outQ := rest, emitted := s.emitted ++ elems [i], terminal := i.signal s.terminal } := by
  cases i <;> simp [step, hc, hq, elems, Item.signal]

/-- **the transitions of the source**: an event leaves the state alone, or is one of five moves -/
theorem step_cases {P : State α → Prop} (s : State α) (e : Ev) (same : P s)
    (request : ∀ n, e = .request n → P { s with creditQ := s.creditQ ++ [n], received := s.received + n })
    (take : ∀ n rest, s.cur = 0 → s.creditQ = n :: rest → P { s with cur := n, creditQ := rest })
    (produce : s.producerDone = false → s.cur ≠ 0 →
      P { s with src := s.src.tail, cur := s.cur - (elems [nextItem s]).length,
                 outQ := s.outQ ++ [nextItem s], producerDone := (nextItem s).isTerminal })
    (feed : ∀ i rest, s.outQ = i :: rest →
      P { s with outQ := rest, emitted := s.emitted ++ elems [i], terminal := i.signal s.terminal })
    (cancel : P { s with cancelled := true }) : P (step s e) := by
  cases hc : s.cancelled
  case true => rw [step_cancelled s hc]; exact same
  cases e with
  | request n => simpa [step, hc] using request n rfl
  | cancel => exact cancel
  | feed =>
    cases hq : s.outQ with
    | nil => simpa [step, hc, hq] using same
    | cons i rest => rw [step_feed s hc i rest hq]; exact feed i rest hq
  | produce =>
    cases hd : s.producerDone
    case true => simpa [step, hd] using same
    by_cases h0 : s.cur = 0
    · cases hq : s.creditQ with
      | nil => simpa [step, hc, hd, h0, hq] using same
      | cons n rest => simpa [step, hc, hd, h0, hq] using take n rest h0 hq
    · rw [step_produce s hc hd h0]; exact produce hd h0

/-- credit accounting and order: what was delivered, what is queued, the credit being served and the
credits still waiting never add up to more than the credit received; delivered ++ queued ++ not yet
produced is the source, in order -/
def Inv (orig : List α) (s : State α) : Prop :=
  s.emitted.length + (elems s.outQ).length + s.cur + s.creditQ.sum ≤ s.received ∧
  s.emitted ++ elems s.outQ ++ s.src = orig

theorem inv_init (src : List α) (f e : Bool) : Inv src (init src f e) := by simp [Inv, init, elems]

theorem inv_step (orig : List α) (s : State α) (e : Ev) (h : Inv orig s) : Inv orig (step s e) := by
  obtain ⟨h1, h2⟩ := h
  refine step_cases s e ⟨h1, h2⟩ (fun n _ => ⟨?_, h2⟩) (fun n rest h0 hq => ⟨?_, h2⟩) (fun _ h0 => ⟨?_, ?_⟩)
    (fun i rest hq => ?_) ⟨h1, h2⟩
  · simp only [List.sum_append, List.sum_cons, List.sum_nil]; omega
  · simp only [hq, List.sum_cons] at h1 ⊢; omega
  · have := elems_single_le (nextItem s)
    simp only [elems_append, List.length_append]; omega
  · simp only [elems_append, List.append_assoc] at h2 ⊢
    rwa [elems_nextItem]
  · rw [hq, elems_cons] at h1 h2
    exact ⟨by simp only [List.length_append] at h1 ⊢; omega, by simpa [List.append_assoc] using h2⟩

theorem inv_run (src : List α) (f e : Bool) (evs : List Ev) : Inv src (run (init src f e) evs) :=
  List.foldl_inv _ (fun s ev _ => inv_step src s ev) (inv_init src f e)

def noTerm (q : List (Item α)) : Prop := ∀ i ∈ q, i.isTerminal = false

/-- producer not finished: no terminal item produced yet; finished: exactly one, the last of the
queue, or already delivered with the queue empty -/
def TInv (s : State α) : Prop :=
  (s.producerDone = false → noTerm s.outQ ∧ s.terminal = none) ∧
  (s.producerDone = true →
    (s.terminal = none ∧ ∃ pre t, s.outQ = pre ++ [t] ∧ noTerm pre ∧ t.isTerminal = true) ∨
    (s.outQ = [] ∧ s.terminal ≠ none))

theorem tinv_init (src : List α) (f e : Bool) : TInv (init src f e) := by
  simp [TInv, init, noTerm]

theorem tinv_step (s : State α) (e : Ev) (h : TInv s) : TInv (step s e) := by
  refine step_cases s e h (fun _ _ => h) (fun _ _ _ _ => h) (fun hd _ => ?_) (fun i rest hq => ?_) h
  · -- the producer is done exactly when the item it appends is terminal
    obtain ⟨hq, ht⟩ := h.1 hd
    cases hi : (nextItem s).isTerminal
    · exact ⟨fun _ => ⟨fun i m => (List.mem_append.mp m).elim (hq i) (by simp; rintro rfl; exact hi), ht⟩, nofun⟩
    · exact ⟨nofun, fun _ => .inl ⟨ht, _, _, rfl, hq, hi⟩⟩
  · have hrest : ∀ {q}, s.outQ = i :: q → noTerm s.outQ → noTerm q ∧ i.signal s.terminal = s.terminal := fun e hn =>
      ⟨fun j m => hn j (e ▸ List.mem_cons_of_mem _ m), Item.signal_of_not_terminal (hn i (e ▸ List.mem_cons_self)) _⟩
    cases hd : s.producerDone
    · obtain ⟨hn, ht⟩ := h.1 hd
      exact ⟨fun _ => ⟨(hrest hq hn).1, (hrest hq hn).2.trans ht⟩, nofun⟩
    · refine ⟨nofun, fun _ => ?_⟩
      rcases h.2 hd with ⟨ht, pre, t, hout, hpre, htt⟩ | ⟨hout, _⟩
      · rw [hq] at hout
        cases pre with
        | nil =>
          obtain ⟨rfl, rfl⟩ := List.cons.inj hout
          exact .inr ⟨rfl, Item.signal_of_terminal htt _⟩
        | cons p ps =>
          obtain ⟨rfl, rfl⟩ := List.cons.inj hout
          exact .inl ⟨(Item.signal_of_not_terminal (hpre _ List.mem_cons_self) _).trans ht, ps, t, rfl,
            fun j m => hpre j (List.mem_cons_of_mem _ m), htt⟩
      · rw [hq] at hout; cases hout

theorem tinv_run (s : State α) (evs : List Ev) (h : TInv s) : TInv (run s evs) :=
  List.foldl_inv _ (fun s e _ => tinv_step s e) h

/-- after the terminal signal was delivered, no event changes what the subscriber has seen -/
theorem run_after_terminal (s : State α) (h : TInv s) (ht : s.terminal ≠ none) (evs : List Ev) :
    (run s evs).emitted = s.emitted ∧ (run s evs).terminal = s.terminal := by
  refine (List.foldl_inv (fun t => TInv t ∧ t.emitted = s.emitted ∧ t.terminal = s.terminal)
    (fun t e _ ⟨hi, he, hs⟩ => ⟨tinv_step t e hi, ?_⟩) ⟨h, rfl, rfl⟩).2
  -- the producer is done and the queue empty: neither `produce` nor `feed` applies
  have hd : t.producerDone = true := by
    cases hp : t.producerDone
    · exact absurd (hs ▸ (hi.1 hp).2) ht
    · rfl
  have hq : t.outQ = [] := (hi.2 hd).elim (fun h1 => absurd (hs ▸ h1.1) ht) (·.1)
  exact step_cases (P := fun u => u.emitted = s.emitted ∧ u.terminal = s.terminal) t e ⟨he, hs⟩ (fun _ _ => ⟨he, hs⟩)
    (fun _ _ _ _ => ⟨he, hs⟩) (fun h => by simp [hd] at h) (fun _ _ h => by simp [hq] at h) ⟨he, hs⟩

/-- a finished producer never produces again: the source is not touched and the queue only shrinks -/
theorem run_done (s : State α) (hd : s.producerDone = true) (evs : List Ev) :
    (run s evs).producerDone = true ∧ (run s evs).src = s.src ∧ ∀ i ∈ (run s evs).outQ, i ∈ s.outQ :=
  List.foldl_inv (fun t => t.producerDone = true ∧ t.src = s.src ∧ ∀ i ∈ t.outQ, i ∈ s.outQ)
    (fun t e _ h => step_cases (P := fun u => u.producerDone = true ∧ u.src = s.src ∧ ∀ i ∈ u.outQ, i ∈ s.outQ) t e h
      (fun _ _ => h) (fun _ _ _ _ => h) (fun hp => by simp [h.1] at hp)
      (fun _ _ hq => ⟨h.1, h.2.1, fun i m => h.2.2 i (hq ▸ List.mem_cons_of_mem _ m)⟩) h)
    ⟨hd, rfl, fun _ h => h⟩

/-- with the source exhausted and no element queued, nothing more is delivered -/
theorem step_no_src (s : State α) (e : Ev) (hs : s.src = []) (ho : elems s.outQ = []) :
    (step s e).src = [] ∧ elems (step s e).outQ = [] ∧ (step s e).emitted = s.emitted := by
  refine step_cases (P := fun u => u.src = [] ∧ elems u.outQ = [] ∧ u.emitted = s.emitted) s e ⟨hs, ho, rfl⟩
    (fun _ _ => ⟨hs, ho, rfl⟩) (fun _ _ _ _ => ⟨hs, ho, rfl⟩) (fun _ _ => ?_) (fun i rest hq => ?_) ⟨hs, ho, rfl⟩
  · have := elems_nextItem s
    simp only [hs, List.tail_nil, List.append_nil] at this
    exact ⟨by simp [hs], by simp [elems_append, ho, this], rfl⟩
  · rw [hq, elems_cons, List.append_eq_nil_iff] at ho
    exact ⟨hs, ho.2, by simp [ho.1]⟩

theorem quiesce_no_src (s : State α) (hs : s.src = []) (ho : elems s.outQ = []) (fuel : Nat) :
    (quiesce s fuel).emitted = s.emitted := by
  induction fuel generalizing s with
  | zero => rfl
  | succ k ih =>
    obtain ⟨p1, p2, p3⟩ := step_no_src s .produce hs ho
    obtain ⟨f1, f2, f3⟩ := step_no_src _ .feed p1 p2
    rw [quiesce, ih _ f1 f2, f3, p3]

/-- one round of `quiesce` from an empty queue with credit in hand: the next item is produced and delivered -/
theorem round (s : State α) (hc : s.cancelled = false) (hd : s.producerDone = false) (ho : s.outQ = []) (h0 : s.cur ≠ 0) :
    step (step s .produce) .feed =
      { s with src := s.src.tail, cur := s.cur - (elems [nextItem s]).length, outQ := [],
               emitted := s.emitted ++ elems [nextItem s], terminal := (nextItem s).signal s.terminal,
               producerDone := (nextItem s).isTerminal } := by
  rw [step_produce s hc hd h0]
  refine step_feed _ ?_ _ [] ?_ <;> simp [hc, ho]

end RSocketModel.Credit
