/-! Two facts about lists that the model's proofs share: every automaton runs a history by
`List.foldl step`, so an invariant of the steps the history takes is an invariant of the run; every
table is looked up by `find?` followed by a projection, so a lookup that succeeds found a row. -/

theorem List.foldl_inv {σ ε : Type} {step : σ → ε → σ} (P : σ → Prop) {evs : List ε}
    (hstep : ∀ s, ∀ e ∈ evs, P s → P (step s e)) {s : σ} (h : P s) : P (evs.foldl step s) := by
  induction evs generalizing s with
  | nil => exact h
  | cons e es ih =>
    exact ih (fun s e he => hstep s e (List.mem_cons_of_mem _ he)) (hstep s e List.mem_cons_self h)

theorem List.find?_map_eq_some {α β : Type} {p : α → Bool} {f : α → β} {l : List α} {y : β}
    (h : (l.find? p).map f = some y) : ∃ x ∈ l, p x = true ∧ f x = y := by
  obtain ⟨x, hx, rfl⟩ := Option.map_eq_some_iff.mp h
  exact ⟨x, List.mem_of_find?_eq_some hx, List.find?_some hx, rfl⟩
