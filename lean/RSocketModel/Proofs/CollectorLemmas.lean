import RSocketModel.Collector
import RSocketModel.Proofs.Basic
namespace RSocketModel.Collector

theorem granted_append (a b : List Out) : granted (a ++ b) = granted a + granted b := by
  induction a with
  | nil => simp [granted]
  | cons x r ih => cases x <;> simp [granted, ih] <;> omega

theorem run_append (L : Nat) (C : Option Nat) (a b : List Ev) : ∀ s : St,
    run L C s (a ++ b) = ((run L C (run L C s a).1 b).1, (run L C s a).2 ++ (run L C (run L C s a).1 b).2) := by
  induction a with
  | nil => intro s; simp [run]
  | cons e r ih => intro s; simp [run, ih, List.append_assoc]

/-- the bookkeeping invariant: with the initial `L`, the credit granted so far minus the elements
received so far is `L - recv`, and `recv < L` -/
def Inv (L : Nat) (g : Nat) (s : St) : Prop := s.recv < L ∧ L + g = s.total + (L - s.recv)

/-- an unflagged element that does not reach the count limit is counted and ends nothing; the credit
bookkeeping is kept, since `L` more is asked for exactly when the batch is full -/
theorem step_plain (L : Nat) (C : Option Nat) (s : St) (hC : C ≠ some (s.total + 1)) :
    (step L C s (.next false)).1.total = s.total + 1 ∧ (step L C s (.next false)).1.done = s.done ∧
    Out.cancel ∉ (step L C s (.next false)).2 ∧
    ∀ g, Inv L g s → Inv L (g + granted (step L C s (.next false)).2) (step L C s (.next false)).1 := by
  simp only [step, Bool.false_eq_true, if_false, hC, Inv]
  split <;> exact ⟨rfl, rfl, by simp, fun g h => by simp only [granted]; omega⟩

/-- **a stretch of `k` unflagged elements that stays below the count limit**: all are counted, the
collector neither finishes nor cancels, and the credit bookkeeping is kept -/
theorem run_plain (L : Nat) (C : Option Nat) (k : Nat) : ∀ (s : St) (g : Nat),
    (∀ t, s.total < t → t ≤ s.total + k → C ≠ some t) →
    (run L C s (List.replicate k (.next false))).1.total = s.total + k ∧
    (run L C s (List.replicate k (.next false))).1.done = s.done ∧
    Out.cancel ∉ (run L C s (List.replicate k (.next false))).2 ∧
    (Inv L g s → Inv L (g + granted (run L C s (List.replicate k (.next false))).2) (run L C s (List.replicate k (.next false))).1) := by
  induction k with
  | zero => intro s g _; simp [run, granted]
  | succ k ih =>
    intro s g hC
    obtain ⟨h1, h2, h3, h4⟩ := step_plain L C s (hC _ (Nat.lt_succ_self _) (by omega))
    obtain ⟨i1, i2, i3, i4⟩ := ih (step L C s (.next false)).1 (g + granted (step L C s (.next false)).2)
      (fun t h h' => hC t (by omega) (by omega))
    simp only [List.replicate_succ, run, granted_append, List.mem_append, ← Nat.add_assoc]
    exact ⟨by omega, i2.trans h2, fun h => h.elim h3 i3, fun h => i4 (h4 g h)⟩

end RSocketModel.Collector
