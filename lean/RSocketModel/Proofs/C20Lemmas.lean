import RSocketModel.RxAdapter
/-! The batching subscriber of the Rx adapters under a credit-respecting publisher (`Props/C20.lean`). -/
namespace RSocketModel.RxAdapter

variable {α : Type}

/-- invariant of the batching subscriber under a credit-respecting publisher: requested credit and
the count of the current batch add up to what was delivered plus one `limit` - or plus nothing while
a new request is pending, and then the batch count is 0 -/
def Inv (limit : Nat) (s : Sub α) : Prop :=
  s.limit = limit ∧ s.requested + s.counter = s.observed.length + (if s.pendingTrigger then 0 else limit) ∧
  (s.pendingTrigger = true → s.counter = 0)

theorem inv_step (limit : Nat) (s : Sub α) (e : Ev α) (h : Inv limit s) (hl : legalEv s e = true) :
    Inv limit (step s e) := by
  obtain ⟨h0, h1, h2⟩ := h
  cases e with
  | complete => exact ⟨h0, h1, h2⟩
  | error => exact ⟨h0, h1, h2⟩
  | trigger =>
    simp only [step]
    split
    · rename_i hp
      have := h2 hp
      simp only [hp, if_true] at h1
      exact ⟨h0, by simp only [Bool.false_eq_true, if_false]; omega, nofun⟩
    · exact ⟨h0, h1, h2⟩
  | next x c =>
    -- an element may come only against outstanding credit: no request is pending
    have hp : s.pendingTrigger = false := by
      simp only [legalEv, Bool.and_eq_true, decide_eq_true_eq] at hl
      cases hp : s.pendingTrigger
      · rfl
      · simp only [hp, if_true, h2 hp] at h1; omega
    simp only [hp, Bool.false_eq_true, if_false] at h1
    simp only [step]
    split
    · exact ⟨h0, by simp [hp]; omega, by simp [hp]⟩
    · split
      · exact ⟨h0, by simp; omega, fun _ => rfl⟩
      · exact ⟨h0, by simp [hp]; omega, by simp [hp]⟩

theorem inv_run (limit : Nat) (evs : List (Ev α)) (hl : PeerLegal (Sub.init limit) evs) :
    Inv limit (run (Sub.init limit) evs) := by
  unfold run
  have h0 : Inv limit (Sub.init limit : Sub α) := by simp [Inv, Sub.init]
  generalize (Sub.init limit : Sub α) = s0 at h0 hl
  induction evs generalizing s0 with
  | nil => exact h0
  | cons e es ih =>
    simp only [PeerLegal, peerLegal, Bool.and_eq_true] at hl
    exact ih (step s0 e) (inv_step limit s0 e h0 hl.1) hl.2

instance (s : Sub α) (evs : List (Ev α)) : Decidable (PeerLegal s evs) := by unfold PeerLegal; infer_instance

end RSocketModel.RxAdapter
