import RSocketModel.Proofs.Composite
/-! Helper definitions and lemmas for `Props/C18.lean` (moved out so that the property file holds only the property theorems). -/
namespace RSocketModel.Composite

/-- an item within the format's limits -/
def WFItem : Item → Prop
  | .raw m _ => WFName Gen.mimeTable m ∧ m ≠ nameRouting ∧ m ≠ nameMime ∧ m ≠ nameAccept ∧ m ≠ nameAuth
  | .routing tags => ∀ t ∈ tags, t.length ≤ 255
  | .dataMime m => WFName Gen.mimeTable m
  | .acceptMimes ms => ∀ m ∈ ms, WFName Gen.mimeTable m
  | .authSimple u _ => u.length < 2 ^ 16
  | .authBearer _ => True

instance (t : Table) (n : Bytes) : Decidable (WFName t n) := by unfold WFName; infer_instance
instance (it : Item) : Decidable (WFItem it) := by cases it <;> unfold WFItem <;> infer_instance

theorem names_distinct :
    nameMime ≠ nameRouting ∧ nameAccept ≠ nameRouting ∧ nameAccept ≠ nameMime ∧ nameAuth ≠ nameRouting ∧
    nameAuth ≠ nameMime ∧ nameAuth ≠ nameAccept ∧ nameBearer ≠ nameSimple := by decide +kernel

theorem special_names_wf :
    WFName Gen.mimeTable nameRouting ∧ WFName Gen.mimeTable nameMime ∧ WFName Gen.mimeTable nameAccept ∧
    WFName Gen.mimeTable nameAuth := by
  refine ⟨Or.inr ?_, Or.inr ?_, Or.inr ?_, Or.inr ?_⟩ <;> decide +kernel

theorem item_mime_wf : (it : Item) → WFItem it → WFName Gen.mimeTable it.mime
  | .raw .., h => h.1
  | .routing _, _ => special_names_wf.1
  | .dataMime _, _ => special_names_wf.2.1
  | .acceptMimes _, _ => special_names_wf.2.2.1
  | .authSimple .., _ => special_names_wf.2.2.2
  | .authBearer _, _ => special_names_wf.2.2.2

theorem decode_nil (mt at_ : Table) : decode mt at_ [] = .ok [] := by
  rw [decode]; simp

end RSocketModel.Composite

