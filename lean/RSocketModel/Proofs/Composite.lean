import RSocketModel.Composite
import RSocketModel.Proofs.Basic
import RSocketModel.Proofs.Run
namespace RSocketModel.Composite

@[simp] theorem R.bind_ok {α β : Type} (a : α) (f : α → R β) : (R.ok a).bind f = f a := rfl
@[simp] theorem R.bind_ok' {α β : Type} (a : α) (f : α → R β) : (R.ok a >>= f) = f a := rfl
@[simp] theorem R.pure_eq {α : Type} (a : α) : (pure a : R α) = R.ok a := rfl

/-- consistency of a (id, name) table: ids fit 7 bits and both lookups invert each other on
every row -/
def TableOK (t : Table) : Prop :=
  ∀ p ∈ t, p.1 < 128 ∧ lookupName t p.1 = some p.2 ∧ lookupId t p.2 = some p.1

instance (t : Table) : Decidable (TableOK t) := by unfold TableOK; infer_instance

/-- a MIME name within the format's limits: a well-known name, or 1–128 bytes -/
def WFName (t : Table) (name : Bytes) : Prop :=
  (lookupId t name).isSome ∨ (1 ≤ name.length ∧ name.length ≤ 128)

theorem take_append_len (a b : Bytes) : (a ++ b).take a.length = a := by
  rw [List.take_append_of_le_length (Nat.le_refl _), List.take_of_length_le (Nat.le_refl _)]

theorem drop_append_len (a b : Bytes) : (a ++ b).drop a.length = b := by
  rw [List.drop_append_of_le_length (Nat.le_refl _), List.drop_of_length_le (Nat.le_refl _)]; rfl

/-- reading back a field behind its `n`-byte big-endian length: the length, the field, the rest -/
theorem lenPrefixed (n : Nat) (c r : Bytes) (h : c.length < 256 ^ n) :
    (beBytes n c.length ++ (c ++ r)).length ≥ n ∧
    ((beBytes n c.length ++ (c ++ r)).drop n).take (beVal ((beBytes n c.length ++ (c ++ r)).take n)) = c ∧
    ((beBytes n c.length ++ (c ++ r)).drop n).drop (beVal ((beBytes n c.length ++ (c ++ r)).take n)) = r := by
  have t := take_append_len (beBytes n c.length) (c ++ r)
  have d := drop_append_len (beBytes n c.length) (c ++ r)
  rw [beBytes_length] at t d
  rw [t, d, beVal_beBytes_of_lt n _ h, take_append_len, drop_append_len]
  simp

theorem lookupId_mem (t : Table) (name : Bytes) (id : Nat) (h : lookupId t name = some id) :
    (id, name) ∈ t := by
  obtain ⟨⟨i, n⟩, hm, hn, rfl⟩ := List.find?_map_eq_some h
  simp only [beq_iff_eq] at hn
  exact hn ▸ hm

theorem decodeMime_encodeMime (t : Table) (ht : TableOK t) (name e rest : Bytes)
    (hwf : WFName t name) (he : encodeMime t name = some e) :
    decodeMime t (e ++ rest) = .ok (name, rest) := by
  unfold encodeMime at he
  cases hl : lookupId t name with
  | some id =>
    simp only [hl, Option.some.injEq] at he
    subst he
    have hmem := lookupId_mem t name id hl
    obtain ⟨hid, hname, _⟩ := ht _ hmem
    simp only at hid hname
    have hb : (UInt8.ofNat (128 + id % 128)).toNat = 128 + id := by
      simp only [UInt8.toNat_ofNat']; omega
    simp only [decodeMime, List.cons_append, List.nil_append, hb]
    have : 128 ≤ 128 + id := by omega
    simp only [this, if_true, Nat.add_sub_cancel_left, hname]
  | none =>
    simp only [hl] at he
    have hlen : 1 ≤ name.length ∧ name.length ≤ 128 := by
      rcases hwf with h | h
      · simp [hl] at h
      · exact h
    have h1 : ¬ (128 < name.length) := by omega
    simp only [h1, if_false, Option.some.injEq] at he
    subst he
    have hb : (UInt8.ofNat ((name.length + 127) % 128)).toNat = name.length - 1 := by
      simp only [UInt8.toNat_ofNat']; omega
    simp only [decodeMime, List.cons_append, hb]
    have h2 : ¬ (128 ≤ name.length - 1) := by omega
    have h3 : name.length - 1 + 1 = name.length := by omega
    simp only [h2, if_false, h3, take_append_len, drop_append_len]

theorem encodeMime_length_pos (t : Table) (name e : Bytes) (he : encodeMime t name = some e) : 1 ≤ e.length := by
  unfold encodeMime at he
  split at he
  · simp only [Option.some.injEq] at he; subst he; simp
  · split at he
    · exact absurd he (by simp)
    · simp only [Option.some.injEq] at he; subst he; simp

theorem encodeTags_isSome (tags : List Bytes) : (encodeTags tags).isSome ↔ ∀ t ∈ tags, t.length ≤ 255 := by
  induction tags with
  | nil => simp [encodeTags]
  | cons t ts ih => simp only [encodeTags]; split <;> simp_all

theorem decodeTags_encodeTags (tags : List Bytes) (e : Bytes) (he : encodeTags tags = some e) :
    decodeTags e = tags := by
  induction tags generalizing e with
  | nil => cases he; rw [decodeTags]
  | cons tag rest ih =>
    simp only [encodeTags] at he
    split at he
    · exact absurd he (by simp)
    · rename_i hlen
      obtain ⟨r, hr, rfl⟩ := Option.map_eq_some_iff.mp he
      rw [List.cons_append, decodeTags.eq_def]
      have hb : (UInt8.ofNat tag.length).toNat = tag.length := by
        simp only [UInt8.toNat_ofNat']; omega
      simp only [hb, take_append_len, drop_append_len, ih r hr]

theorem decodeMimes_nil (t : Table) : decodeMimes t [] = .ok [] := by
  rw [decodeMimes]; simp

theorem decodeMimes_encodeMimes (t : Table) (ht : TableOK t) (ms : List Bytes) (e : Bytes)
    (hwf : ∀ m ∈ ms, WFName t m) (he : encodeMimes t ms = some e) :
    decodeMimes t e = .ok ms := by
  induction ms generalizing e with
  | nil => cases he; exact decodeMimes_nil t
  | cons m rest ih =>
    simp only [encodeMimes, Option.bind_eq_bind, Option.bind_eq_some_iff, Option.pure_def, Option.some.injEq] at he
    obtain ⟨a, ha, b, hb, rfl⟩ := he
    have hpos := encodeMime_length_pos t m a ha
    rw [decodeMimes, dif_neg (by rw [List.length_append]; omega), decodeMime_encodeMime t ht m a b (hwf m (by simp)) ha]
    simp only
    rw [dif_pos (by rw [List.length_append]; omega), ih b (fun x hx => hwf x (by simp [hx])) hb]
    rfl

end RSocketModel.Composite
