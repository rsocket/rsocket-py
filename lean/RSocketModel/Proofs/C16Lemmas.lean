import RSocketModel.Client
import RSocketModel.Proofs.Run
/-! Helper definitions and lemmas for `Props/C16.lean`: the client's SETUP frame is within the wire
format's ranges; the invariant behind "SETUP first, once, on every transport". -/
namespace RSocketModel.Client

/-- the model's SETUP is within the wire format's ranges for every configuration with MIME names
of at most 127 bytes and periods below 2^32 ms -/
theorem setup_wf (c : Config) (h1 : c.mdEnc.length < 128) (h2 : c.dataEnc.length < 128)
    (h3 : toMillis c.keepAliveUs < 2 ^ 32) (h4 : toMillis c.maxLifetimeUs < 2 ^ 32) (h5 : c.setupMd.length < 2 ^ 24) :
    Codec.WF (setupFrame c) := by
  simp [setupFrame, Codec.WF]; omega

/-- a transport was handed nothing, or SETUP first and only once -/
def WireOK (w : List Tag) : Prop := w = [] ∨ (w.head? = some .setup ∧ .setup ∉ w.tail)

/-- a prefix of "SETUP, then no SETUP" is such a wire -/
theorem wireOK_of_append {w q rest : List Tag} (h : w ++ q = .setup :: rest) (hr : .setup ∉ rest) : WireOK w := by
  cases w with
  | nil => exact .inl rfl
  | cons a t =>
    obtain ⟨rfl, rfl⟩ := List.cons.inj h
    exact .inr ⟨rfl, fun m => hr (List.mem_append_left _ m)⟩

/-- invariant of a connected client: what the current transport was handed, followed by what is
still queued, is SETUP and then never SETUP again (the sender only moves the boundary between the
two); every earlier transport saw SETUP first, once -/
def SetupInv (s : State) : Prop :=
  0 < s.connects ∧ (∃ rest, s.wire ++ s.queue = .setup :: rest ∧ .setup ∉ rest) ∧ ∀ w ∈ s.epochs, WireOK w

theorem setupInv_enqueue (s : State) (x : Tag) (hx : x ≠ .setup) (h : SetupInv s) :
    SetupInv { s with queue := s.queue ++ [x] } := by
  obtain ⟨hc, ⟨rest, e, hr⟩, he⟩ := h
  exact ⟨hc, ⟨rest ++ [x], by simp [← List.append_assoc, e], by simp [hr, hx.symm]⟩, he⟩

theorem setupInv_step (s : State) (e : Ev) (h : SetupInv s) : SetupInv (step s e) := by
  cases e with
  | connect =>
    obtain ⟨hc, ⟨rest, e, hr⟩, he⟩ := h
    refine ⟨Nat.succ_pos _, ⟨[], rfl, nofun⟩, fun w hw => ?_⟩
    obtain hw | rfl : w ∈ s.epochs ∨ w = s.wire := by simpa [step, Nat.ne_of_gt hc] using hw
    · exact he w hw
    · exact wireOK_of_append e hr
  | request => exact setupInv_enqueue s (.req s.nextId) nofun h
  | keepaliveTick => exact setupInv_enqueue s .keepalive nofun h
  | queueOther => exact setupInv_enqueue s .other nofun h
  | senderStep =>
    simp only [step]
    split
    · rename_i hd t _ hq
      obtain ⟨hc, ⟨rest, e, hr⟩, he⟩ := h
      exact ⟨hc, ⟨rest, by simpa [hq] using e, hr⟩, he⟩
    · exact h
  | _ => exact h

end RSocketModel.Client
