import RSocketModel.StreamId
namespace RSocketModel.StreamId

theorem two_pow_pos (k : Nat) : 0 < 2 ^ k := Nat.pos_of_ne_zero (by simp)

theorem two_pow_split {k : Nat} (hk : 1 ≤ k) : 2 ^ k = 2 * 2 ^ (k - 1) := by
  cases k with
  | zero => omega
  | succ n => simp [Nat.pow_succ, Nat.mul_comm]

theorem incr_lt (k cur : Nat) : incr k cur < 2 ^ k := Nat.mod_lt _ (two_pow_pos k)

theorem incr_parity {k : Nat} (hk : 1 ≤ k) (cur : Nat) : incr k cur % 2 = cur % 2 := by
  unfold incr
  have h := two_pow_split hk
  generalize 2 ^ (k - 1) = H at h
  rw [h, Nat.mod_mul_right_mod]
  omega

/-- position reached after `j` increments -/
def nth (k cur : Nat) : Nat → Nat
  | 0 => cur
  | j + 1 => incr k (nth k cur j)

theorem nth_succ_left (k cur j : Nat) : nth k cur (j + 1) = nth k (incr k cur) j := by
  induction j with
  | zero => rfl
  | succ n ih => simp only [nth] at ih ⊢; rw [ih]

theorem nth_eq (k cur j : Nat) (hc : cur < 2 ^ k) : nth k cur j = (cur + 2 * j) % 2 ^ k := by
  induction j with
  | zero => simp [nth, Nat.mod_eq_of_lt hc]
  | succ n ih =>
    simp only [nth, ih, incr]
    rw [Nat.mod_add_mod]
    congr 1

theorem nth_parity {k : Nat} (hk : 1 ≤ k) (cur j : Nat) : nth k cur j % 2 = cur % 2 := by
  induction j with
  | zero => rfl
  | succ n ih => simp only [nth]; rw [incr_parity hk, ih]

theorem nth_lt (k cur j : Nat) (hc : cur < 2 ^ k) : nth k cur j < 2 ^ k := by
  cases j with
  | zero => exact hc
  | succ n => exact incr_lt _ _

/-- a position the allocator passes over: the connection's id 0, or a stream in use -/
def Busy (active : Nat → Bool) (c : Nat) : Prop := c = 0 ∨ active c = true

instance (active : Nat → Bool) (c : Nat) : Decidable (Busy active c) := inferInstanceAs (Decidable (_ ∨ _))

theorem busy_iff (active : Nat → Bool) (c : Nat) : (c == 0 || active c) = true ↔ Busy active c := by
  simp [Busy]

/-- **the loop, characterised**: it stops at the first of the next `fuel` positions that is not busy
and returns it; if all are busy it gives up, `fuel` positions further on -/
theorem allocLoop_spec (k : Nat) (active : Nat → Bool) (fuel cur : Nat) :
    (∃ j, 1 ≤ j ∧ j ≤ fuel ∧ allocLoop k active fuel cur = (some (nth k cur j), nth k cur j) ∧
      ¬ Busy active (nth k cur j) ∧ ∀ i, 1 ≤ i → i < j → Busy active (nth k cur i)) ∨
    (allocLoop k active fuel cur = (none, nth k cur fuel) ∧ ∀ i, 1 ≤ i → i ≤ fuel → Busy active (nth k cur i)) := by
  induction fuel generalizing cur with
  | zero => exact .inr ⟨rfl, fun i h1 h0 => by omega⟩
  | succ n ih =>
    by_cases hb : Busy active (incr k cur)
    · -- one position further on, every index shifts by one
      have shift : ∀ m, (∀ i, 1 ≤ i → i < m → Busy active (nth k (incr k cur) i)) →
          ∀ i, 1 ≤ i → i < m + 1 → Busy active (nth k cur i) := fun m h i h1 hm => by
        obtain _ | _ | i := i
        · omega
        · exact hb
        · rw [nth_succ_left]; exact h _ (by omega) (by omega)
      simp only [allocLoop, (busy_iff ..).mpr hb, if_true]
      rcases ih (incr k cur) with ⟨j, h1, hj, e, hf, hall⟩ | ⟨e, hall⟩
      · exact .inl ⟨j + 1, by omega, by omega, by rw [nth_succ_left]; exact e, by rwa [nth_succ_left], shift j hall⟩
      · exact .inr ⟨by rw [nth_succ_left]; exact e, fun i h1 hi => shift (n + 1) (fun i h1 hi => hall i h1 (by omega)) i h1 (by omega)⟩
    · exact .inl ⟨1, by omega, by omega, by simp [allocLoop, nth, mt (busy_iff ..).mp hb], hb, fun i h1 h2 => by omega⟩

/-- Every id `x < 2^k` of `cur`'s parity is reached within `2^(k-1)` increments. -/
theorem enumerates {k : Nat} (hk : 1 ≤ k) (cur x : Nat) (hc : cur < 2 ^ k) (hx : x < 2 ^ k)
    (hp : x % 2 = cur % 2) : ∃ j, 1 ≤ j ∧ j ≤ 2 ^ (k - 1) ∧ nth k cur j = x := by
  have hM := two_pow_split hk
  by_cases hgt : cur < x
  · refine ⟨(x - cur) / 2, by omega, by omega, ?_⟩
    rw [nth_eq k cur _ hc]
    have : cur + 2 * ((x - cur) / 2) = x := by omega
    rw [this, Nat.mod_eq_of_lt hx]
  · refine ⟨2 ^ (k - 1) - (cur - x) / 2, by omega, by omega, ?_⟩
    rw [nth_eq k cur _ hc]
    have : cur + 2 * (2 ^ (k - 1) - (cur - x) / 2) = x + 2 ^ k := by omega
    rw [this, Nat.add_mod_right, Nat.mod_eq_of_lt hx]

theorem initCur_lt (k first : Nat) : initCur k first < 2 ^ k := Nat.mod_lt _ (two_pow_pos k)

theorem initCur_parity {k : Nat} (hk : 1 ≤ k) (first : Nat) (hf : 1 ≤ first) :
    initCur k first % 2 = first % 2 := by
  unfold initCur
  have h := two_pow_split hk
  have hH := two_pow_pos (k - 1)
  generalize 2 ^ (k - 1) = H at h hH
  rw [h, Nat.mod_mul_right_mod]
  omega

/-- a successful allocation returns the first of the next `2^(k-1)` positions that is not busy -/
theorem alloc_some {k : Nat} {active : Nat → Bool} {cur id c : Nat} (h : alloc k active cur = (some id, c)) :
    c = id ∧ id ≠ 0 ∧ active id = false ∧
      ∃ j, 1 ≤ j ∧ j ≤ attempts k ∧ id = nth k cur j ∧ ∀ i, 1 ≤ i → i < j → Busy active (nth k cur i) := by
  rcases allocLoop_spec k active (attempts k) cur with ⟨j, h1, hj, e, hf, hall⟩ | ⟨e, _⟩ <;> rw [alloc, e] at h
  · obtain ⟨rfl, rfl⟩ : nth k cur j = id ∧ nth k cur j = c := by simpa using h
    simp only [Busy, not_or, Bool.not_eq_true] at hf
    exact ⟨rfl, hf.1, hf.2, j, h1, hj, rfl, hall⟩
  · simp at h

/-- found or not, the allocator is left at a position of the cycle: in range, of the same parity -/
theorem alloc_snd_inv (k : Nat) (hk : 1 ≤ k) (active : Nat → Bool) (cur : Nat) (hc : cur < 2 ^ k) :
    (alloc k active cur).2 < 2 ^ k ∧ (alloc k active cur).2 % 2 = cur % 2 := by
  rcases allocLoop_spec k active (attempts k) cur with ⟨j, _, _, e, _⟩ | ⟨e, _⟩ <;>
    (rw [alloc, e]; exact ⟨nth_lt k cur _ hc, nth_parity hk cur _⟩)

/-- State invariant of the history machine of width `k` for an endpoint whose first id is `first`. -/
def Inv (k first : Nat) (s : State) : Prop :=
  s.k = k ∧ 1 ≤ k ∧ s.cur < 2 ^ k ∧ s.cur % 2 = first % 2

theorem inv_init (k first : Nat) (hk : 1 ≤ k) (hf : 1 ≤ first) : Inv k first (init k first) :=
  ⟨rfl, hk, initCur_lt k first, initCur_parity hk first hf⟩

/-- what an operation has to do with the allocator: an id it hands out is the one `alloc` found, a
failure it reports is `alloc`'s, and the position moves only as `alloc` moves it -/
theorem step_alloc (s : State) (op : Op) :
    (∀ id, (step s op).2 = .allocated id → (alloc s.k s.isActive s.cur).1 = some id) ∧
    ((step s op).2 = .allocationFailure → (alloc s.k s.isActive s.cur).1 = none) ∧
    (step s op).1.k = s.k ∧ ((step s op).1.cur = s.cur ∨ (step s op).1.cur = (alloc s.k s.isActive s.cur).2) := by
  cases op <;> simp only [step] <;> (try split) <;> simp_all

theorem inv_step (k first : Nat) (s : State) (op : Op) (h : Inv k first s) : Inv k first (step s op).1 := by
  obtain ⟨rfl, hk, hc, hp⟩ := h
  obtain ⟨_, _, e, hcur | hcur⟩ := step_alloc s op
  · exact ⟨e, hk, hcur ▸ hc, hcur ▸ hp⟩
  · have ha := alloc_snd_inv s.k hk s.isActive s.cur hc
    exact ⟨e, hk, hcur ▸ ha.1, hcur ▸ ha.2.trans hp⟩

theorem run_forall {P : State → Prop} {Q : State × Out → Prop} (hP : ∀ s op, P s → P (step s op).1)
    (hQ : ∀ s op, P s → Q (s, (step s op).2)) (ops : List Op) : ∀ s, P s → ∀ so ∈ run s ops, Q so := by
  induction ops with
  | nil => intro s _ so hso; cases hso
  | cons op ops ih =>
    intro s h so hso
    rcases List.mem_cons.mp hso with rfl | hso
    · exact hQ s op h
    · exact ih _ (hP s op h) so hso

theorem sweepOne_active (retry : Nat → Bool) (s : State) (id : Nat) :
    (∀ m, m ∈ s.active → m ≠ id → m ∈ (sweepOne retry s id).1.active) ∧
    (∀ n, n ∈ (sweepOne retry s id).2 → n ∉ s.active ∧ (n ≠ id → n ∈ (sweepOne retry s id).1.active)) := by
  unfold sweepOne
  by_cases hr : retry id = true
  · cases ha : alloc s.k s.isActive s.cur with
    | mk o c =>
      cases o with
      | none =>
        simp [hr, step, ha]
        intro m hm hne; exact ⟨hm, hne⟩
      | some n =>
        have hna : s.isActive n = false := (alloc_some ha).2.2.1
        have hn : n ∉ s.active := by simpa [State.isActive] using hna
        simp [hr, step, ha]
        exact ⟨fun m hm hne => ⟨Or.inr hm, hne⟩, hn⟩
  · simp [hr, step]
    intro m hm hne; exact ⟨hm, hne⟩

theorem sweepLoop_keeps (retry : Nat → Bool) (rest : List Nat) (s : State)
    (hsub : ∀ x, x ∈ rest → x ∈ s.active) (hnd : rest.Nodup) :
    (∀ m, m ∈ s.active → m ∉ rest → m ∈ (sweepLoop retry s rest).1.active) ∧
    (∀ n, n ∈ (sweepLoop retry s rest).2 → n ∈ (sweepLoop retry s rest).1.active) := by
  induction rest generalizing s with
  | nil => simp [sweepLoop]
  | cons id rest ih =>
    obtain ⟨hkeep1, hnew1⟩ := sweepOne_active retry s id
    have hidn : id ∉ rest := (List.nodup_cons.mp hnd).1
    have hsub' : ∀ x, x ∈ rest → x ∈ (sweepOne retry s id).1.active := fun x hx =>
      hkeep1 x (hsub x (List.mem_cons_of_mem _ hx)) (fun h => hidn (h ▸ hx))
    obtain ⟨ihk, ihn⟩ := ih (sweepOne retry s id).1 hsub' (List.nodup_cons.mp hnd).2
    simp only [sweepLoop]
    refine ⟨fun m hm hnot => ?_, fun n hn => ?_⟩
    · have hne : m ≠ id := fun h => hnot (h ▸ List.mem_cons_self)
      exact ihk m (hkeep1 m hm hne) (fun h => hnot (List.mem_cons_of_mem _ h))
    · rcases List.mem_append.mp hn with h | h
      · obtain ⟨hnot, hin⟩ := hnew1 n h
        have hne : n ≠ id := fun e => hnot (e ▸ hsub id List.mem_cons_self)
        exact ihk n (hin hne) (fun hr => hnot (hsub n (List.mem_cons_of_mem _ hr)))
      · exact ihn n h

end RSocketModel.StreamId
