import RSocketModel.Lease
import RSocketModel.Proofs.Run
/-!
The lease gate (`Lease.lean`) as transition rules. A lease changes only by having requests counted
against it (`Counted`); it grants exactly while it is not `Spent`; the drain loop releases a prefix
of the queue (`drain_spec`). `step_cases` puts the three together; the C14 theorems are read off it.
-/
namespace RSocketModel.Lease

/-- cannot grant any more: expired or exhausted -/
def Spent (l : LeaseSt) (now : Nat) : Prop := l.created + l.ttl ≤ now ∨ l.max ≤ l.used

instance (l : LeaseSt) (now : Nat) : Decidable (Spent l now) := inferInstanceAs (Decidable (_ ∨ _))

theorem spent_mono (l : LeaseSt) (a b : Nat) (h : Spent l a) (hab : a ≤ b) : Spent l b :=
  h.imp_left (Nat.le_trans · hab)

/-- the same grant with no fewer requests counted against it -/
def Counted (l l' : LeaseSt) : Prop :=
  l'.max = l.max ∧ l'.created = l.created ∧ l'.ttl = l.ttl ∧ l.used ≤ l'.used

theorem Counted.trans {a b c : LeaseSt} (h : Counted a b) (h' : Counted b c) : Counted a c := by
  unfold Counted at *; omega

theorem allow_of_not_spent {l : LeaseSt} {now : Nat} (h : ¬ Spent l now) :
    allow l now = (true, { l with used := l.used + 1 }) := by
  simp only [Spent, not_or, Nat.not_le] at h
  simp [allow, h.1, Nat.not_le.mpr, Nat.succ_le_of_lt h.2]

theorem allow_of_spent {l : LeaseSt} {now : Nat} (h : Spent l now) :
    (allow l now).1 = false ∧ Counted l (allow l now).2 ∧ Spent (allow l now).2 now := by
  unfold allow Counted Spent at *
  split <;> simp <;> omega

theorem drain_of_spent {l : LeaseSt} {now : Nat} (h : Spent l now) (r : Nat) (rest : List Nat) (sent : List (Nat × Nat)) :
    drain l now (r :: rest) sent = ((allow l now).2, r :: rest, sent) := by
  have := (allow_of_spent h).1
  rw [drain]; split <;> simp_all

theorem drain_of_not_spent {l : LeaseSt} {now : Nat} (h : ¬ Spent l now) (r : Nat) (rest : List Nat) (sent : List (Nat × Nat)) :
    drain l now (r :: rest) sent = drain { l with used := l.used + 1 } now rest (sent ++ [(r, now)]) := by
  simp [drain, allow_of_not_spent h]

/-- **the drain loop releases a prefix of the queue**: `k` requests, no more than the lease still
allows and none unless it is live, all stamped `now`; if any stay behind, the lease is spent -/
theorem drain_spec (l : LeaseSt) (now : Nat) (q : List Nat) (sent : List (Nat × Nat)) :
    ∃ k l', drain l now q sent = (l', q.drop k, sent ++ (q.take k).map (·, now)) ∧ k ≤ q.length ∧
      Counted l l' ∧ k ≤ l'.used - l.used ∧ k ≤ l.max - l.used ∧ (k ≠ 0 → now < l.created + l.ttl) ∧
      (k < q.length → Spent l' now) := by
  induction q generalizing l sent with
  | nil => exact ⟨0, l, by simp [drain], by simp, ⟨rfl, rfl, rfl, Nat.le_refl _⟩, by simp, by simp, by simp, by simp⟩
  | cons r rest ih =>
    by_cases hs : Spent l now
    · obtain ⟨_, h2, h3⟩ := allow_of_spent hs
      exact ⟨0, _, by simp [drain_of_spent hs], by simp, h2, by simp, by simp, by simp, fun _ => h3⟩
    · obtain ⟨k, l', e, hk, hc, hu, hm, hl, hsp⟩ := ih { l with used := l.used + 1 } (sent ++ [(r, now)])
      have hlive : now < l.created + l.ttl ∧ l.used < l.max := by simpa only [Spent, not_or, Nat.not_le] using hs
      have hused := hc.2.2.2
      simp only at hu hm hused
      exact ⟨k + 1, l', by simp [drain_of_not_spent hs, e], by simpa using hk,
        Counted.trans (b := { l with used := l.used + 1 }) ⟨rfl, rfl, rfl, Nat.le_succ _⟩ hc, by omega, by omega,
        fun _ => hlive.1, fun h => hsp (by simpa using h)⟩

/-- while requests are held the lease in force can grant nothing (so a new request can never
overtake a held one); the ghost counter of requests sent under the lease in force never exceeds
the granted number -/
def Inv (s : State) : Prop :=
  (s.queue ≠ [] → Spent s.lease s.now) ∧ s.underLease ≤ s.lease.max ∧ s.underLease ≤ s.lease.used

/-- **the transitions of the gate.** A request is sent at once under a lease that is not spent;
under a spent one it is refused if the queue is full, else held, the lease staying spent. A LEASE
installs the new grant and releases the first `k` held requests. -/
theorem step_cases {P : State → Prop} (s : State) (e : Ev)
    (granted : ∀ tag t, e = .request tag t → ¬ Spent s.lease (max s.now t) →
      P { s with lease := { s.lease with used := s.lease.used + 1 }, sent := s.sent ++ [(tag, max s.now t)],
                 underLease := s.underLease + 1, now := max s.now t })
    (rejected : ∀ tag t l', e = .request tag t → Counted s.lease l' → Spent l' (max s.now t) →
      s.capacity ≠ 0 ∧ s.capacity ≤ s.queue.length →
      P { s with lease := l', rejected := s.rejected ++ [tag], now := max s.now t })
    (held : ∀ tag t l', e = .request tag t → Counted s.lease l' → Spent l' (max s.now t) →
      ¬ (s.capacity ≠ 0 ∧ s.capacity ≤ s.queue.length) →
      P { s with lease := l', queue := s.queue ++ [tag], now := max s.now t })
    (lease : ∀ n ttl t k l', e = .lease n ttl t →
      k ≤ s.queue.length ∧ k ≤ l'.used ∧ k ≤ l'.max ∧ l'.max = n ∧ (k ≠ 0 → max s.now t < l'.created + l'.ttl) ∧
        (k < s.queue.length → Spent l' (max s.now t)) →
      P { s with lease := l', queue := s.queue.drop k, sent := s.sent ++ (s.queue.take k).map (·, max s.now t),
                 underLease := k, now := max s.now t }) :
    P (step s e) := by
  cases e with
  | request tag t =>
    by_cases hs : Spent s.lease (max s.now t)
    · obtain ⟨h1, h2, h3⟩ := allow_of_spent hs
      by_cases hf : s.capacity ≠ 0 ∧ s.capacity ≤ s.queue.length
      · simpa [step, h1, hf] using rejected tag t _ rfl h2 h3 hf
      · simpa [step, h1, hf] using held tag t _ rfl h2 h3 hf
    · simpa [step, allow_of_not_spent hs] using granted tag t rfl hs
  | lease n ttl t =>
    obtain ⟨k, l', e, hk, hc, hu, hm, hl, hsp⟩ :=
      drain_spec { max := n, used := 0, created := max s.now t, ttl := ttl } (max s.now t) s.queue s.sent
    simpa [step, e, Nat.min_eq_left hk] using
      lease n ttl t k l' rfl ⟨hk, hu, hc.1 ▸ hm, hc.1, fun h => hc.2.1 ▸ hc.2.2.1 ▸ hl h, hsp⟩

theorem inv_init (cap t0 : Nat) : Inv (init cap t0) := by simp [Inv, init]

theorem step_now_mono (s : State) (e : Ev) : s.now ≤ (step s e).now :=
  step_cases (P := fun u => s.now ≤ u.now) s e (fun _ _ _ _ => Nat.le_max_left ..) (fun _ _ _ _ _ _ _ => Nat.le_max_left ..)
    (fun _ _ _ _ _ _ _ => Nat.le_max_left ..) (fun _ _ _ _ _ _ _ => Nat.le_max_left ..)

/-- a lease that is not spent is held by no one: nothing waits in the queue -/
theorem queue_nil_of_not_spent {s : State} (h : Inv s) {t : Nat} (hs : ¬ Spent s.lease (max s.now t)) : s.queue = [] :=
  Decidable.byContradiction fun hq => hs (spent_mono _ _ _ (h.1 hq) (Nat.le_max_left ..))

theorem inv_step (s : State) (e : Ev) (h : Inv s) : Inv (step s e) := by
  obtain ⟨h1, h2, h3⟩ := h
  refine step_cases s e (fun tag t _ hs => ?_) (fun _ _ l' _ hc hs _ => ?_) (fun _ _ l' _ hc hs _ => ?_)
    (fun n ttl t k l' _ ⟨hk, hu, hm, _, _, hsp⟩ => ⟨fun hq => hsp ?_, hm, hu⟩)
  · have hq := queue_nil_of_not_spent ⟨h1, h2, h3⟩ hs
    simp only [Spent, not_or, Nat.not_le] at hs
    exact ⟨fun h => absurd hq h, by show s.underLease + 1 ≤ s.lease.max; omega, Nat.succ_le_succ h3⟩
  · exact ⟨fun _ => hs, hc.1 ▸ h2, Nat.le_trans h3 hc.2.2.2⟩
  · exact ⟨fun _ => hs, hc.1 ▸ h2, Nat.le_trans h3 hc.2.2.2⟩
  · exact Nat.lt_of_not_le fun hle => hq (List.drop_eq_nil_of_le hle)

theorem inv_run (cap t0 : Nat) (evs : List Ev) : Inv (run (init cap t0) evs) :=
  List.foldl_inv _ (fun s e _ => inv_step s e) (inv_init cap t0)

def isRequest : Ev → Bool
  | .request .. => true
  | .lease .. => false

/-- the ghost counter is what it claims to be: the growth of `sent` since the latest LEASE -/
theorem underLease_spec (s : State) (n ttl t : Nat) (post : List Ev) (h : ∀ e ∈ post, isRequest e = true) :
    (run (step s (.lease n ttl t)) post).sent.length = s.sent.length + (run (step s (.lease n ttl t)) post).underLease ∧
    (run (step s (.lease n ttl t)) post).lease.max = n := by
  refine List.foldl_inv (fun u : State => u.sent.length = s.sent.length + u.underLease ∧ u.lease.max = n)
    (fun u e he ⟨a, b⟩ => ?_) ?_
  · exact step_cases (P := fun v => v.sent.length = s.sent.length + v.underLease ∧ v.lease.max = n) u e
      (fun _ _ _ _ => ⟨by simp; omega, b⟩) (fun _ _ _ _ hc _ _ => ⟨a, hc.1 ▸ b⟩) (fun _ _ _ _ hc _ _ => ⟨a, hc.1 ▸ b⟩)
      (fun _ _ _ _ _ hl _ => by have := h e he; simp [hl, isRequest] at this)
  · exact step_cases (P := fun v => v.sent.length = s.sent.length + v.underLease ∧ v.lease.max = n) s _ nofun nofun nofun
      (fun _ _ _ k l' hl ⟨hk, _, _, hm, _⟩ => by cases hl; exact ⟨by simp [hk], hm⟩)

/-- the tags of the requests handed to `send_request` over a history, in order -/
def requestedTags : List Ev → List Nat
  | [] => []
  | .request tag _ :: evs => tag :: requestedTags evs
  | .lease .. :: evs => requestedTags evs

theorem step_accounts (s : State) (e : Ev) :
    (accepted (step s e) ++ (step s e).rejected).Perm (accepted s ++ s.rejected ++ requestedTags [e]) := by
  refine step_cases (P := fun u => (accepted u ++ u.rejected).Perm (accepted s ++ s.rejected ++ requestedTags [e])) s e
    (fun _ _ he _ => ?_) (fun _ _ _ he _ _ _ => ?_) (fun _ _ _ he _ _ _ => ?_) (fun _ _ _ k _ he _ => ?_) <;>
    subst he <;> simp only [accepted, requestedTags, List.map_append, List.map_map, List.append_assoc]
  · exact .append_left _ (List.perm_append_comm.trans (by simp))
  · rfl
  · exact .append_left _ (.append_left _ List.perm_append_comm)
  · simp [Function.comp_def, ← List.append_assoc (List.take k s.queue)]

end RSocketModel.Lease
