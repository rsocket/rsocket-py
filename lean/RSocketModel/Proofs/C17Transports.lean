import RSocketModel.Proofs.C17Lemmas
/-! The invariant behind "the old transport is closed" of `Props/C17.lean`, and the histories it is stated for. -/
namespace RSocketModel.Client

/-- every transport ever obtained is either the one in use or closed -/
def TransInv (s : State) : Prop :=
  (∀ i, i < s.taken → s.current = some i ∨ i ∈ s.closedT) ∧ (∀ t, s.current = some t → t < s.taken)

/-- the provider is asked for a transport only while the client holds none (`connect()` resolves a
*pending* `_next_transport`; resolving it twice raises) -/
def OneAtATime : State → List Ev → Prop
  | _, [] => True
  | s, e :: es => (e = .providerYields → s.current = none) ∧ OneAtATime (step s e) es

theorem transInv_step (s : State) (e : Ev) (h : TransInv s) (hy : e = .providerYields → s.current = none) :
    TransInv (step s e) := by
  obtain ⟨h1, h2⟩ := h
  cases e with
  | providerYields =>
    have hc := hy rfl
    refine ⟨fun i hi => ?_, fun t ht => ?_⟩
    · simp only [step] at hi ⊢
      by_cases hit : i = s.taken
      · left; rw [hit]
      · right
        rcases h1 i (by omega) with h | h
        · rw [hc] at h; cases h
        · exact h
    · simp only [step] at ht ⊢
      cases ht; omega
  | closeForReconnect =>
    refine ⟨fun i hi => ?_, fun t ht => by simp [step] at ht⟩
    simp only [step] at hi ⊢
    right
    rcases h1 i hi with h | h
    · simp [h]
    · exact List.mem_append_left _ h
  | senderStep =>
    simp only [step]
    split <;> exact ⟨h1, h2⟩
  | _ => exact ⟨h1, h2⟩

end RSocketModel.Client
