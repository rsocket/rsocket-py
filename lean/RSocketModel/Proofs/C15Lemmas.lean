import RSocketModel.KeepAlive
/-! Helper definitions and lemmas for `Props/C15.lean` (moved out so that the property file holds only the property theorems). -/
namespace RSocketModel.KeepAlive

theorem foldl_max_le_iff (l : List Nat) (a T : Nat) : l.foldl max a ≤ T ↔ a ≤ T ∧ ∀ x ∈ l, x ≤ T := by
  induction l generalizing a with
  | nil => simp
  | cons y ys ih => simp [ih, Nat.max_le, and_assoc]

/-- `lastBefore` is the least upper bound of the connect instant and the arrivals up to `T` -/
theorem lastBefore_le_iff (r0 T B : Nat) (arrivals : List Nat) :
    lastBefore r0 arrivals T ≤ B ↔ r0 ≤ B ∧ ∀ a ∈ arrivals, a ≤ T → a ≤ B := by
  simp [lastBefore, foldl_max_le_iff]

theorem lastBefore_le (r0 T : Nat) (arrivals : List Nat) (h : r0 ≤ T) : lastBefore r0 arrivals T ≤ T :=
  (lastBefore_le_iff ..).mpr ⟨h, fun _ _ h => h⟩

theorem lastBefore_ge (r0 T a : Nat) (arrivals : List Nat) (ha : a ∈ arrivals) (haT : a ≤ T) :
    a ≤ lastBefore r0 arrivals T :=
  ((lastBefore_le_iff ..).mp (Nat.le_refl _)).2 a ha haT

/-- arrivals at intervals no longer than the maximum lifetime -/
def GapsOK (L : Nat) : Nat → List Nat → Prop
  | _, [] => True
  | prev, a :: rest => prev ≤ a ∧ a ≤ prev + L ∧ GapsOK L a rest

end RSocketModel.KeepAlive

