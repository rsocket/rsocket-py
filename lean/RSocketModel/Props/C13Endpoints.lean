import RSocketModel.Props.C13
import RSocketModel.Gen.Endpoints
/-!
# C13 / C16 — the two endpoint classes (regenerated from the source)

`c13_history` is parametric in the first stream id an endpoint starts from; this file instantiates
it with what `RSocketClient._get_first_stream_id` / `RSocketServer._get_first_stream_id` return *in
the current source* and the 31-bit id width, and records how both `__init__`s forward their
arguments to `RSocketBase.__init__`.
-/
namespace RSocketModel.StreamId

theorem c13_first_stream_ids : Gen.firstStreamIdClient = 1 ∧ Gen.firstStreamIdServer = 2 := by decide

/-- every id a **client** allocates, in every history of allocate / register / finish: odd, never
0, below 2^31, not active at that moment; allocation fails only when all odd ids are active -/
theorem c13_client_ids_odd (ops : List Op) :
    ∀ so ∈ run (init 31 Gen.firstStreamIdClient) ops,
      (∀ id, so.2 = .allocated id → id ≠ 0 ∧ id % 2 = 1 ∧ so.1.isActive id = false ∧ id < 2 ^ 31) ∧
      (so.2 = .allocationFailure → ∀ x, x < 2 ^ 31 → x % 2 = 1 → x ≠ 0 → so.1.isActive x = true) :=
  c13_history 31 Gen.firstStreamIdClient (by decide) (by decide) ops

/-- every id a **server** allocates: even, never 0, below 2^31, not active at that moment -/
theorem c13_server_ids_even (ops : List Op) :
    ∀ so ∈ run (init 31 Gen.firstStreamIdServer) ops,
      (∀ id, so.2 = .allocated id → id ≠ 0 ∧ id % 2 = 0 ∧ so.1.isActive id = false ∧ id < 2 ^ 31) ∧
      (so.2 = .allocationFailure → ∀ x, x < 2 ^ 31 → x % 2 = 0 → x ≠ 0 → so.1.isActive x = true) :=
  c13_history 31 Gen.firstStreamIdServer (by decide) (by decide) ops

/-- the two ends of a connection never open the same stream id, whatever each has done before -/
theorem c13_endpoints_never_collide (cops sops : List Op) (a b : State × Out) (ia ib : Nat)
    (ha : a ∈ run (init 31 Gen.firstStreamIdClient) cops) (hb : b ∈ run (init 31 Gen.firstStreamIdServer) sops)
    (hia : a.2 = .allocated ia) (hib : b.2 = .allocated ib) : ia ≠ ib := by
  have h1 := ((c13_client_ids_odd cops a ha).1 ia hia).2.1
  have h2 := ((c13_server_ids_even sops b hb).1 ib hib).2.1
  omega

/-- both endpoint classes hand every constructor argument to `RSocketBase.__init__` under its own
name: none dropped, none crossed (lease queue size, encodings, keepalive times, fragment size) -/
theorem c16_init_arguments_forwarded :
    Gen.serverInitForwarding = Gen.baseInitParams.map (fun p => (p, p)) ∧
    Gen.clientInitForwarding = Gen.baseInitParams.map (fun p => (p, p)) := by decide

end RSocketModel.StreamId
