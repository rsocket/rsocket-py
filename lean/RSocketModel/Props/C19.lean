import RSocketModel.Proofs.C19Lemmas
/-!
# C19 — Routed dispatch is exact and the authentication gate cannot be bypassed
Property theorems only (decision logic stated outright).
-/
namespace RSocketModel.Routing
open RSocketModel.Composite

/-- **exact route**: a request whose gate is open and whose first route tag is registered for its
interaction type runs exactly that handler -/
theorem c19_exact_route (r : Router) (v) (ty : ReqType) (items : List Item) (route : Bytes) (h : Handler)
    (hr : requireRoute items = some route) (hg : gateOpen v route items = true)
    (hl : lookup (r.routes ty) route = some h) :
    dispatch r v ty (some items) = .ran h.id (collectArgs h.params) := by
  rw [dispatch_eq r v ty items route hr, hg]; simp [routeTo, hl]

/-- **unknown-route fallback** of the same interaction type -/
theorem c19_unknown_fallback (r : Router) (v) (ty : ReqType) (items : List Item) (route : Bytes) (u : Handler)
    (hr : requireRoute items = some route) (hg : gateOpen v route items = true)
    (hl : lookup (r.routes ty) route = none) (hu : r.unknown ty = some u) :
    dispatch r v ty (some items) = .ran u.id (collectArgs u.params) := by
  rw [dispatch_eq r v ty items route hr, hg]; simp [routeTo, hl, hu]

/-- **otherwise the request alone fails** -/
theorem c19_error_is_local (r : Router) (v) (ty : ReqType) (items : List Item) (route : Bytes)
    (hr : requireRoute items = some route)
    (hl : lookup (r.routes ty) route = none) (hu : r.unknown ty = none) :
    dispatch r v ty (some items) = .error := by
  rw [dispatch_eq r v ty items route hr]; simp [routeTo, hl, hu]

/-- **only handlers of the request's own interaction type can run** -/
theorem c19_only_own_type (r : Router) (v) (ty : ReqType) (items : Option (List Item)) (hid : Nat) (args : List Arg)
    (h : dispatch r v ty items = .ran hid args) :
    (∃ p ∈ r.routes ty, p.2.id = hid ∧ requireRoute (items.getD []) = some p.1) ∨ (∃ u, r.unknown ty = some u ∧ u.id = hid) := by
  cases items with
  | none => simp [dispatch] at h
  | some items =>
    cases hr : requireRoute items with
    | none => simp [dispatch, hr] at h
    | some route =>
      rw [dispatch_eq r v ty items route hr] at h
      split at h
      · unfold routeTo at h
        split at h
        · rename_i hd hl
          obtain ⟨p, hm, hp, rfl⟩ := List.find?_map_eq_some hl
          exact .inl ⟨p, hm, (Outcome.ran.inj h).1, by simp [hr, beq_iff_eq.mp hp]⟩
        · split at h
          · exact .inr ⟨_, ‹_›, (Outcome.ran.inj h).1⟩
          · cases h
      · cases h

/-- **authentication gate**: with a verifier configured, a request that carries no authentication
entry, or whose entry the verifier rejects, runs no route handler — for every interaction type,
every route table and every position of the entries in the composite. -/
theorem c19_auth_gate (r : Router) (v : Bytes → Item → Bool) (ty : ReqType) (items : Option (List Item))
    (hrej : ∀ its route, items = some its → requireRoute its = some route →
      (firstAuth its = none ∨ ∃ a, firstAuth its = some a ∧ v route a = false)) :
    dispatch r (some v) ty items = .error := by
  cases items with
  | none => rfl
  | some its =>
    cases hr : requireRoute its with
    | none => simp [dispatch, hr]
    | some route =>
      rw [dispatch_eq r (some v) ty its route hr]
      rcases hrej its route rfl hr with h | ⟨a, ha, hv⟩
      · simp [gateOpen, h]
      · simp [gateOpen, ha, hv]

/-- **parameters**: a parameter receives the parsed composite metadata iff it is named
`composite_metadata` or annotated `CompositeMetadata`; otherwise the payload, passed through the
deserializer iff it carries an annotation other than `Payload` -/
theorem c19_params (ps : List Param) (i : Nat) (hi : i < ps.length) :
    ((collectArgs ps)[i]'(by simpa [collectArgs] using hi) = .composite ↔
      (ps[i].named_composite_metadata = true ∨ ps[i].annot = .compositeMetadata)) ∧
    ((collectArgs ps)[i]'(by simpa [collectArgs] using hi) = .deserialized ↔
      (ps[i].named_composite_metadata = false ∧ ps[i].annot = .other)) := by
  simp only [collectArgs, List.getElem_map]
  cases hn : ps[i].named_composite_metadata <;> cases ha : ps[i].annot <;> simp

/-- non-vacuity: a rejected request with the route entry after the authentication entry -/
example : dispatch ⟨fun _ => [([114], ⟨1, []⟩)], fun _ => some ⟨2, []⟩⟩ (some fun _ a => a == .authBearer [103])
    .stream (some [.authBearer [98], .routing [[114]]]) = .error := by decide

end RSocketModel.Routing
