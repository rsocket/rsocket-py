import RSocketModel.Proofs.C16Lemmas
import RSocketModel.Props.C02
import RSocketModel.Engine.Step
/-!
# C16 — Setup handshake: faithful SETUP first; correct accept/reject
-/
namespace RSocketModel.Client

/-- whole-millisecond periods are announced exactly -/
theorem c16_millis_exact (k : Nat) : toMillis (1000 * k) = k := by unfold toMillis; omega

/-- **faithful SETUP**: what the peer decodes from the client's SETUP frame is exactly the
configuration — version 1.0, both periods in milliseconds, both MIME types, lease flag, payload -/
theorem c16_setup_fields_exact (c : Config) (h1 : c.mdEnc.length < 128) (h2 : c.dataEnc.length < 128)
    (h3 : toMillis c.keepAliveUs < 2 ^ 32) (h4 : toMillis c.maxLifetimeUs < 2 ^ 32) (h5 : c.setupMd.length < 2 ^ 24) :
    Codec.decode (Codec.encode (setupFrame c)) =
      .frame (.setup 0 false c.honorLease false 1 0 (toMillis c.keepAliveUs) (toMillis c.maxLifetimeUs) []
        c.mdEnc c.dataEnc c.setupMd c.setupData) := by
  have := Codec.c02_decode_encode (setupFrame c) (setup_wf c h1 h2 h3 h4 h5)
  simpa [setupFrame, Codec.canon] using this

/-! ### SETUP precedes every other frame on every connection -/

/-- **SETUP first, once, on every connection** — for every sequence of requests, keepalive ticks,
sender steps, provider/transport suspensions (the gate opens whenever it opens), timeouts and
reconnects that starts with `connect()`: the current transport and every earlier one was handed
either nothing or SETUP as its first frame and no second SETUP. -/
theorem c16_setup_first (evs : List Ev) :
    let s := run (step {} .connect) evs
    WireOK s.wire ∧ ∀ w ∈ s.epochs, WireOK w := by
  obtain ⟨_, ⟨rest, e, hr⟩, he⟩ : SetupInv (run (step {} .connect) evs) :=
    List.foldl_inv _ (fun s e _ => setupInv_step s e) ⟨Nat.one_pos, ⟨[], rfl, nofun⟩, nofun⟩
  exact ⟨wireOK_of_append e hr, he⟩

/-- what happened before fix F6: a request issued while `transport.connect()` is suspended is sent
before SETUP -/
theorem c16_counterexample_pre_f6 :
    ([Sum.inl Ev.connect, .inl .request, .inl .providerYields, .inl .senderStep, .inr (), .inl .senderStep].foldl
      stepPreF6 {}).wire = [.req 1, .setup] := by decide

/-! ### server side: accept / reject (engine model) -/

open Engine in
/-- **server decision**: a SETUP that requests resume, or lease without a lease publisher, is
answered with UNSUPPORTED_SETUP on stream 0 and `on_setup` is not called; `on_setup` raising gives
REJECTED_SETUP; otherwise `on_setup` is called exactly once and nothing is sent; a RESUME frame is
answered with REJECTED_RESUME. -/
theorem c16_server_decision (st : Engine.State) (hc : st.closed = false) (resume lease : Bool) (data : List Nat)
    (b : Engine.Behaviour) :
    (Engine.step st (.recv { ty := .setup, sid := 0, respond := resume, complete := lease, data := data } b)).2 =
      (if resume then [.send (mkError 0 cUnsupportedSetup)]
       else if lease && !st.hasLeasePublisher then [.send (mkError 0 cUnsupportedSetup)]
       else if b = .raises then [.handlerCall .setup data, .send (mkError 0 cRejectedSetup)]
       else [.handlerCall .setup data]) ∧
    (Engine.step st (.recv { ty := .resume, sid := 0 } b)).2 = [.send (mkError 0 cRejectedResume)] := by
  constructor
  · cases resume <;> cases lease <;> cases hl : st.hasLeasePublisher <;> cases b <;>
      simp [Engine.step, Engine.recvStep, hc, Engine.isFragmentable, Engine.handleByType, Engine.State.emit, hl]
  · simp [Engine.step, Engine.recvStep, hc, Engine.isFragmentable, Engine.handleByType, Engine.State.emit]

end RSocketModel.Client
