import RSocketModel.Proofs.StreamId
import RSocketModel.Gen.Constants
import RSocketModel.Engine.Step
/-!
# C13 — Stream ids: right parity, never zero, never a live id, wrap-around

Property theorems only (helper lemmas live in `Proofs/StreamId.lean`).
All statements are for every id width `k ≥ 1`, every active set, every current
position and every history; the code's constant is the instance `k = 31`
(`c13_code_width`, from the regenerated `Gen/Constants.lean`).
-/
namespace RSocketModel.StreamId

/-- One allocation, any state: the id returned is non-zero, has the parity of the current
position, is not active, is in range, becomes the new current position, and is the *first*
free id met when stepping by 2 from the current position modulo `2^k` (ids in use and 0 are
skipped). -/
theorem c13_alloc_sound (k : Nat) (hk : 1 ≤ k) (active : Nat → Bool) (cur id c : Nat)
    (hc : cur < 2 ^ k) (h : alloc k active cur = (some id, c)) :
    id ≠ 0 ∧ id % 2 = cur % 2 ∧ active id = false ∧ id < 2 ^ k ∧ c = id ∧
    ∃ j, 1 ≤ j ∧ j ≤ 2 ^ (k - 1) ∧ id = (cur + 2 * j) % 2 ^ k ∧
      ∀ i, 1 ≤ i → i < j →
        ((cur + 2 * i) % 2 ^ k = 0 ∨ active ((cur + 2 * i) % 2 ^ k) = true) := by
  obtain ⟨rfl, h0, ha, j, h1, hj, rfl, hall⟩ := alloc_some h
  exact ⟨h0, nth_parity hk cur j, ha, nth_lt k cur j hc, rfl, j, h1, hj, nth_eq k cur j hc,
    fun i hi hij => nth_eq k cur i hc ▸ hall i hi hij⟩

/-- Allocation fails exactly when every non-zero id of that parity is active. -/
theorem c13_fails_iff_full (k : Nat) (hk : 1 ≤ k) (active : Nat → Bool) (cur : Nat)
    (hc : cur < 2 ^ k) :
    (alloc k active cur).1 = none ↔
      ∀ x, x < 2 ^ k → x % 2 = cur % 2 → x ≠ 0 → active x = true := by
  rcases allocLoop_spec k active (attempts k) cur with ⟨j, _, _, e, hf, _⟩ | ⟨e, hall⟩ <;> rw [alloc, e]
  · -- it stopped at a position that is not busy
    refine iff_of_false (by simp) fun hfull => hf ?_
    by_cases h0 : nth k cur j = 0
    · exact .inl h0
    · exact .inr (hfull _ (nth_lt k cur j hc) (nth_parity hk cur j) h0)
  · -- all `2^(k-1)` positions were busy, and they are all the ids of this parity
    refine iff_of_true rfl fun x hx hp hnz => ?_
    obtain ⟨j, hj1, hjn, rfl⟩ := enumerates hk cur x hc hx hp
    exact (hall j hj1 hjn).resolve_left hnz

/-- **C13 over all histories.** For every id width `k ≥ 1`, first id `first ≥ 1` (1 = client,
2 = server), and every history of allocate / register / finish operations (registrations of
arbitrary peer-chosen ids included): every id ever handed out is non-zero, has the endpoint's
parity, is in range and was not active at that moment; and an allocation fails only when every
non-zero id of that parity is active at that moment. -/
theorem c13_history (k first : Nat) (hk : 1 ≤ k) (hf : 1 ≤ first) (ops : List Op) :
    ∀ so ∈ run (init k first) ops,
      (∀ id, so.2 = .allocated id →
        id ≠ 0 ∧ id % 2 = first % 2 ∧ so.1.isActive id = false ∧ id < 2 ^ k) ∧
      (so.2 = .allocationFailure →
        ∀ x, x < 2 ^ k → x % 2 = first % 2 → x ≠ 0 → so.1.isActive x = true) := by
  refine run_forall (inv_step k first) (fun s op ⟨hsk, _, hc, hp⟩ => ?_) ops _ (inv_init k first hk hf)
  subst hsk
  obtain ⟨hs, hn, _⟩ := step_alloc s op
  refine ⟨fun id hid => ?_, fun hfail => hp ▸ (c13_fails_iff_full s.k hk s.isActive s.cur hc).1 (hn hfail)⟩
  obtain ⟨h1, h2, h3, h4, _⟩ := c13_alloc_sound s.k hk s.isActive s.cur id _ hc (Prod.ext (hs id hid) rfl)
  exact ⟨h1, h2.trans hp, h3, h4⟩

/-- A finished id is available again, and an id that is registered and not finished is not:
`assert_stream_id_available` refuses exactly the live ids. -/
theorem c13_available_iff (s : State) (id : Nat) : available s id = true ↔ id ∉ s.active := by
  simp [available, State.isActive]

theorem c13_finish_frees (s : State) (id : Nat) : available (step s (.finish id)).1 id = true := by
  simp [available, State.isActive, step]

theorem c13_register_occupies (s : State) (id : Nat) (h0 : id ≠ 0) (hlt : id < 2 ^ s.k) :
    available (step s (.register id)).1 id = false := by
  have : ¬ (id = 0 ∨ 2 ^ s.k ≤ id) := by omega
  simp [available, State.isActive, step, this]

/-! ### Streams registered while `stop_all_streams()` is walking over the table -/

/-- `stop_all_streams()` with applications that react to the failure of their stream by opening a
new one at once: every stream registered while the table is being walked is still registered when
the walk is over — its id stays reserved (`assert_stream_id_available` refuses it, the allocator
skips it) — whatever the table, the position of the allocator, and whichever owners retry. -/
theorem c13_registered_during_sweep_stays_reserved (retry : Nat → Bool) (s : State) (hnd : s.active.Nodup)
    (n : Nat) (hn : n ∈ (sweep retry s).2) :
    available (sweep retry s).1 n = false := by
  have := (sweepLoop_keeps retry s.active s (fun _ h => h) hnd).2 n hn
  simpa [available, State.isActive, sweep] using this

/-- Non-vacuity, with a wrap: a 3-bit space holding 1, 3 and 5 with the allocator at 5; the owners of 5 and 1 retry:
the retries get 7 and (after the wrap) 3 — freed a moment earlier by the walk itself — and both are reserved afterwards. -/
example : (sweep (fun i => i == 5 || i == 1) { k := 3, cur := 5, active := [5, 3, 1] }).2 = [7, 3]
    ∧ (sweep (fun i => i == 5 || i == 1) { k := 3, cur := 5, active := [5, 3, 1] }).1.active = [3, 7] := by decide

/-- The code's id width. -/
theorem c13_code_width : Gen.maxStreamId = 2 ^ 31 - 1 := by decide

/-- non-vacuity: a history on a 3-bit space that wraps and skips a live id. -/
example : (run (init 3 1) [.allocate, .allocate, .allocate, .allocate, .finish 3, .allocate, .allocate]).map (·.2)
    = [.allocated 1, .allocated 3, .allocated 5, .allocated 7, .finished, .allocated 3, .allocationFailure] := by
  decide

end RSocketModel.StreamId

namespace RSocketModel.Engine

/-- **an incoming request on an id that is still active is rejected and replaces nothing**: for
every engine state, every stream-opening frame type and every handler behaviour, the only effect
is one ERROR[REJECTED] on that stream; the state — table, handler objects, cache — is unchanged -/
theorem c13_request_on_active_id_rejected (st : State) (hc : st.closed = false) (ty : FType) (hty : isInitiate ty = true)
    (sid : Nat) (hact : st.isActive sid = true) (hcache : st.cache.find? (·.1 == sid) = none)
    (data : List Nat) (n : Nat) (complete : Bool) (b : Behaviour) :
    step st (.recv { ty := ty, sid := sid, n := n, data := data, complete := complete } b) =
      (st, [.send (mkError sid cRejected)]) := by
  cases ty <;> simp [isInitiate] at hty <;>
    simp [step, recvStep, hc, isFragmentable, cacheAppend, hcache, isInitiate, handleByType, hact, State.emit]

end RSocketModel.Engine
