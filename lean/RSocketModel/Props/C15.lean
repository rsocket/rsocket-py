import RSocketModel.Proofs.C15Lemmas
import RSocketModel.Engine.Step
/-!
# C15 — Keepalive: echo, periodic emission, timeout detection
Property theorems only. Times are integer milliseconds of the virtual clock.
-/
namespace RSocketModel.KeepAlive

/-- **echo**: a KEEPALIVE with the respond flag is answered by exactly one KEEPALIVE without the
flag carrying the same data; one without the flag is never answered. -/
theorem c15_echo (respond : Bool) (data : List Nat) :
    echo respond data = if respond then [(false, data)] else [] := rfl

/-- the same in the engine model: the reply is queued on stream 0, nothing else happens -/
theorem c15_echo_engine (st : Engine.State) (hc : st.closed = false) (respond : Bool) (data : List Nat)
    (b : Engine.Behaviour) :
    (Engine.step st (.recv { ty := .keepalive, sid := 0, respond := respond, data := data } b)).2 =
      (if respond then [.send { ty := .keepalive, sid := 0, respond := false, data := data }] else []) := by
  cases respond <;>
    simp [Engine.step, Engine.recvStep, hc, Engine.isFragmentable, Engine.handleByType, Engine.State.emit]

/-- **periodic emission**: consecutive keepalives are exactly one period apart, the first one
period after the sender started -/
theorem c15_periodic (t0 P i : Nat) :
    sendTime t0 P 1 = t0 + P ∧ sendTime t0 P (i + 1) = sendTime t0 P i + P := by
  simp [sendTime, Nat.succ_mul, Nat.add_assoc]

/-- **no false timeout**: a check does not fire when some KEEPALIVE (or the connect instant)
arrived within the last maximum lifetime before it -/
theorem c15_no_false_timeout (r0 L T : Nat) (arrivals : List Nat)
    (h : (r0 ≤ T ∧ T ≤ r0 + L) ∨ ∃ a ∈ arrivals, a ≤ T ∧ T ≤ a + L) :
    fires r0 L arrivals T = false := by
  unfold fires
  simp only [decide_eq_false_iff_not, Nat.not_lt]
  rcases h with ⟨h1, h2⟩ | ⟨a, ha, h1, h2⟩
  · have := ((lastBefore_le_iff r0 T _ arrivals).mp (Nat.le_refl _)).1
    omega
  · have := lastBefore_ge r0 T a arrivals ha h1
    omega

/-- … hence **while KEEPALIVEs keep arriving at intervals ≤ L, no check up to one lifetime after
the latest arrival ever fires** -/
theorem c15_no_false_timeout_gaps (r0 L : Nat) (arrivals : List Nat) (hg : GapsOK L r0 arrivals)
    (T : Nat) (h0 : r0 ≤ T) (hT : T ≤ (arrivals.getLast?.getD r0) + L) :
    fires r0 L arrivals T = false := by
  apply c15_no_false_timeout
  induction arrivals generalizing r0 with
  | nil => left; simpa using ⟨h0, hT⟩
  | cons a rest ih =>
    obtain ⟨h1, h2, h3⟩ := hg
    by_cases haT : T < a
    · left; exact ⟨h0, by omega⟩
    · rw [List.getLast?_cons, Option.getD_some] at hT
      rcases ih a h3 (by omega) hT with ⟨_, h5⟩ | ⟨x, hx, h5, h6⟩
      · right; exact ⟨a, by simp, by omega, h5⟩
      · right; exact ⟨x, by simp [hx], h5, h6⟩

/-- **detection**: if the server falls silent after time `r` (no arrival later than `r`, and the
receiver's checks started no later than one lifetime after `r`), some check in the window
`(r + L, r + 2L]` fires: silence of more than two maximum lifetimes is always detected. -/
theorem c15_detects (r0 c0 L r : Nat) (arrivals : List Nat) (hL : 0 < L)
    (hlast : ∀ T, r ≤ T → lastBefore r0 arrivals T = r) (hc : c0 ≤ r + L) :
    ∃ j, 1 ≤ j ∧ r + L < checkTime c0 L j ∧ checkTime c0 L j ≤ r + 2 * L ∧
      fires r0 L arrivals (checkTime c0 L j) = true := by
  refine ⟨(r + L - c0) / L + 1, Nat.le_add_left 1 _, ?_⟩
  have hdm := Nat.div_add_mod (r + L - c0) L
  have hm := Nat.mod_lt (r + L - c0) hL
  have hT : checkTime c0 L ((r + L - c0) / L + 1) = c0 + L * ((r + L - c0) / L) + L := by
    unfold checkTime
    rw [Nat.add_mul, Nat.one_mul, Nat.mul_comm]
    omega
  generalize L * ((r + L - c0) / L) = Q at hdm hT
  generalize (r + L - c0) % L = m at hdm hm
  rw [hT]
  refine ⟨by omega, by omega, ?_⟩
  unfold fires
  rw [hlast _ (by omega)]
  simp only [decide_eq_true_eq]
  omega

/-- non-vacuity of `c15_detects`: last arrival at 2000 ms, lifetime 700 ms, checks from 0 -/
example : fires 0 700 [500, 1200, 2000] (checkTime 0 700 4) = true ∧ 2000 + 700 < checkTime 0 700 4 ∧
    checkTime 0 700 4 ≤ 2000 + 2 * 700 := by decide

end RSocketModel.KeepAlive
