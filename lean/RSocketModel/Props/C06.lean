import RSocketModel.Proofs.Credit
import RSocketModel.Engine.Step
import RSocketModel.Engine.Invariants
import RSocketModel.Proofs.CollectorLemmas
/-!
# C06 — Request-n flow control: emission never exceeds granted credit
-/
namespace RSocketModel.Credit

variable {α : Type}

/-- **never more than the credit received**, at every moment, for every interleaving of credit
arrival, production and delivery -/
theorem c06_never_exceeds (src : List α) (f e : Bool) (evs : List Ev) :
    (run (init src f e) evs).emitted.length ≤ (run (init src f e) evs).received := by
  have := (inv_run src f e evs).1
  omega

/-- **order**: what is delivered is a prefix of the source, element for element -/
theorem c06_order (src : List α) (f e : Bool) (evs : List Ev) :
    ∃ rest, src = (run (init src f e) evs).emitted ++ rest :=
  ⟨_, by rw [← List.append_assoc]; exact (inv_run src f e evs).2.symm⟩

/-- **stalls without credit**: with every received credit used up, production and delivery steps
deliver nothing further until new credit arrives -/
theorem c06_stalls_without_credit (orig : List α) (s : State α) (h : Inv orig s) (hc : s.emitted.length = s.received)
    (evs : List Ev) (hne : ∀ ev ∈ evs, ev = .produce ∨ ev = .feed) :
    (run s evs).emitted = s.emitted := by
  refine (List.foldl_inv (fun t => Inv orig t ∧ t.emitted = s.emitted ∧ t.received = s.received)
    (fun t ev hev ⟨hi, he, hr⟩ => ⟨inv_step orig t ev hi, ?_⟩) ⟨h, rfl, rfl⟩).2.1
  -- all credit is used up, so no element is queued: `feed` has nothing to deliver
  have ho : elems t.outQ = [] := List.eq_nil_of_length_eq_zero (by have := hi.1; rw [he, hr] at this; omega)
  refine step_cases (P := fun u => u.emitted = s.emitted ∧ u.received = s.received) t ev ⟨he, hr⟩
    (fun n hn => ?_) (fun _ _ _ _ => ⟨he, hr⟩) (fun _ _ => ⟨he, hr⟩) (fun i rest hq => ?_) ⟨he, hr⟩
  · cases hn ▸ hne ev hev <;> contradiction
  · rw [hq, elems_cons, List.append_eq_nil_iff] at ho
    exact ⟨by simp [ho.1, he], hr⟩

/-- **delivers everything once enough credit is granted**: with a credit value of at least the
number of remaining elements being served, enough rounds of the producer and feeder tasks deliver
every remaining element, in order. -/
theorem c06_delivers_all (s : State α) (extra : Nat) (hcan : s.cancelled = false) (hpd : s.producerDone = false)
    (ho : s.outQ = []) (hcur : s.src.length ≤ s.cur) :
    (quiesce s (s.src.length + extra)).emitted = s.emitted ++ s.src := by
  -- a producer that is done has flagged its last element: nothing is left, which is as good
  replace hpd : s.producerDone = false ∨ s.src = [] := .inl hpd
  induction hs : s.src generalizing s with
  | nil => simpa using quiesce_no_src s hs (by simp [ho, elems]) _
  | cons x rest ih =>
    have hn : nextItem s = .elem x (rest.isEmpty && s.flagged) := by simp [nextItem, hs]
    rw [hs, List.length_cons] at hcur
    rw [List.length_cons, Nat.add_right_comm, quiesce, round s hcan (hpd.resolve_right (by simp [hs])) ho (by omega), hn]
    refine (ih _ ?_ ?_ ?_ ?_ ?_).trans ?_ <;> simp [elems, hs, hcan, Item.isTerminal]
    · omega
    · cases rest <;> simp

/-- a request of `n ≥ count` on a fresh source delivers all `count` elements -/
theorem c06_single_credit_delivers (src : List α) (f e : Bool) (n : Nat) (hn : src.length ≤ n) :
    (quiesce (step (step (init src f e) (.request n)) .produce) (src.length + 1)).emitted = src := by
  have h0 : step (step (init src f e) (.request n)) .produce =
      { init src f e with cur := n, creditQ := [], received := n } := by
    cases n with
    | zero => simp [step, init]
    | succ k => simp [step, init]
  rw [h0]
  have := c06_delivers_all { init src f e with cur := n, creditQ := [], received := n } 1 rfl rfl rfl (by simpa [init] using hn)
  simpa [init] using this

/-! ### credit is transmitted with exactly the value given (engine model) -/

open Engine in
/-- `Subscription.request(n)` on a requester emits REQUEST_N(n); the initial request-n of a stream
request is carried unchanged; a responder forwards the peer's initial n and every REQUEST_N
unchanged to the local publisher's `Subscription.request`. -/
theorem c06_credit_forwarded_exact (st : Engine.State) (hc : st.closed = false) (oid sid n : Nat) (s : Engine.Stream)
    (hobj : st.obj oid = some s) (hsid : s.sid = sid) :
    (s.kind = .stReq → (Engine.step st (.subRequest oid n)).2 = [.send (mkRequestN sid n)]) ∧
    (s.kind = .stResp → st.oidOf sid = some oid →
      (Engine.step st (.recv { ty := .requestN, sid := sid, n := n } .ok)).2 = [.pubRequest oid n] ∨ sid = 0) := by
  constructor
  · intro hk
    simp [Engine.step, Engine.apiStep, hobj, hk, hsid, Engine.State.emit, hc]
  · intro hk ho
    by_cases h0 : sid = 0
    · exact Or.inr h0
    · left
      simp [Engine.step, Engine.recvStep, hc, Engine.isFragmentable, h0, Engine.isInitiate, ho, hobj, Engine.frameReceived, hk,
        Engine.State.emit]

open Engine in
/-- On a channel, either side: a REQUEST_N for a registered channel whose local publisher exists is
handed to that publisher's `Subscription.request` with exactly its value and changes nothing else -
in *every* state of the channel, in particular whether or not the peer's own direction has
already completed. -/
theorem c06_channel_credit_forwarded (st : Engine.State) (hc : st.closed = false) (oid sid n : Nat) (s : Engine.Stream)
    (h0 : sid ≠ 0) (hreg : st.oidOf sid = some oid) (hobj : st.obj oid = some s)
    (hk : s.kind = .chResp ∨ s.kind = .chReq) (hp : s.hasPub = true) (hs : s.setupDone = true) (b : Behaviour) :
    Engine.step st (.recv { ty := .requestN, sid := sid, n := n } b) = (st, [.pubRequest oid n]) := by
  rcases hk with hk | hk <;>
    simp [Engine.step, Engine.recvStep, hc, Engine.isFragmentable, h0, Engine.isInitiate, hreg, hobj, Engine.frameReceived, hk, hp, hs,
      Engine.State.emit]

open Engine in
/-- The history a seeded change broke: the peer's last element arrives with COMPLETE (its direction
is over, ours is not), then it grants more credit: the grant still reaches the publisher. -/
theorem c06_credit_after_peer_completed (st : Engine.State) (hc : st.closed = false) (oid sid n : Nat) (s : Engine.Stream)
    (h0 : sid ≠ 0) (hreg : st.oidOf sid = some oid) (hobj : st.obj oid = some s)
    (hcache : st.cache.find? (·.1 == sid) = none)
    (hk : s.kind = .chResp ∨ s.kind = .chReq) (hp : s.hasPub = true) (hs : s.setupDone = true) (hsub : s.subscribed = true)
    (hr : s.recvComplete = false) (hsc : s.sentComplete = false) (d : List Nat) (b b' : Behaviour) :
    (Engine.step st (.recv { ty := .payload, sid := sid, next := true, complete := true, data := d } b)).2 = [.onNext oid d true] ∧
    (Engine.step (Engine.step st (.recv { ty := .payload, sid := sid, next := true, complete := true, data := d } b)).1
      (.recv { ty := .requestN, sid := sid, n := n } b')).2 = [.pubRequest oid n] := by
  have hstep : Engine.step st (.recv { ty := .payload, sid := sid, next := true, complete := true, data := d } b)
      = (markChannel st oid s true false, [.onNext oid d true]) := by
    rcases hk with hk | hk <;>
      simp [Engine.step, Engine.recvStep, hc, Engine.isFragmentable, h0, Engine.isInitiate, hreg, hobj, Engine.frameReceived, hk, hr, hsub,
        Engine.State.emit, Engine.cacheAppend, hcache]
  have hmc : markChannel st oid s true false = st.setObj oid { s with recvComplete := true } := by
    simp [markChannel, hr, hsc]
  rw [hstep]
  refine ⟨rfl, ?_⟩
  show (Engine.step (markChannel st oid s true false) _).2 = _
  rw [hmc]
  have hobj' : (st.setObj oid { s with recvComplete := true }).obj oid = some { s with recvComplete := true } :=
    Engine.obj_setObj_self st oid s _ hobj
  have hreg' : (st.setObj oid { s with recvComplete := true }).oidOf sid = some oid := hreg
  have hc' : (st.setObj oid { s with recvComplete := true }).closed = false := hc
  rw [c06_channel_credit_forwarded (st.setObj oid { s with recvComplete := true }) hc' oid sid n
    { s with recvComplete := true } h0 hreg' hobj' hk hp hs b']

end RSocketModel.Credit

/-! ### the library's own awaitable requester (`CollectorSubscriber`, behind `AwaitableRSocket`) -/
namespace RSocketModel.Collector

/-- every REQUEST_N the collector causes carries exactly the configured limit rate -/
theorem c06_collector_requests_exactly_limit (L : Nat) (C : Option Nat) (evs : List Ev) :
    ∀ (s : St) (n : Nat), Out.request n ∈ (run L C s evs).2 → n = L := by
  induction evs with
  | nil => intro s n h; simp [run] at h
  | cons e r ih =>
    intro s n h
    simp only [run, List.mem_append] at h
    rcases h with h | h
    · cases e <;> simp only [step] at h <;> (repeat' split at h) <;> simp at h
      exact h
    · exact ih _ n h

/-- **the credit window**: subscribed with `initial_request_n(L)`, while unflagged elements arrive
and the count limit is not reached, the credit outstanding at the peer (the initial `L` plus every
REQUEST_N sent, minus the elements received) is never more than `L` and never zero: the collector
neither exceeds its limit rate nor lets the stream run dry -/
theorem c06_collector_credit_window (L : Nat) (hL : 1 ≤ L) (k : Nat) :
    let r := run L none {} (List.replicate k (.next false))
    r.1.total = k ∧ 1 ≤ L + granted r.2 - k ∧ L + granted r.2 - k ≤ L := by
  obtain ⟨h1, _, _, h4⟩ := run_plain L none k {} 0 (fun _ _ _ => nofun)
  obtain ⟨h5, h6⟩ := h4 ⟨hL, by simp⟩
  simp only [Nat.zero_add] at h1 h5 h6
  exact ⟨h1, by omega, by omega⟩

/-- with a count limit `c ≥ 1` the collector cancels exactly when the `c`-th element arrives (and
not before), and resolves the awaitable -/
theorem c06_collector_cancels_at_count (L c : Nat) (hc : 1 ≤ c) :
    let r := run L (some c) {} (List.replicate c (.next false))
    r.1.done = true ∧ r.2.getLast? = some .cancel ∧
    (∀ k, k < c → Out.cancel ∉ (run L (some c) {} (List.replicate k (.next false))).2 ∧
      (run L (some c) {} (List.replicate k (.next false))).1.done = false) := by
  -- below the limit nothing ends; the `c`-th element finds `total + 1 = c`
  have below : ∀ k, k < c → _ := fun k hk => run_plain L (some c) k {} 0 (fun t _ h => by simp at h ⊢; omega)
  obtain ⟨c', rfl⟩ : ∃ c', c = c' + 1 := ⟨c - 1, by omega⟩
  obtain ⟨h1, h2, _⟩ := below c' (Nat.lt_succ_self _)
  refine ⟨?_, ?_, fun k hk => ⟨(below k hk).2.2.1, (below k hk).2.1⟩⟩ <;>
    simp [List.replicate_succ', run_append, run, step, h1]

end RSocketModel.Collector
