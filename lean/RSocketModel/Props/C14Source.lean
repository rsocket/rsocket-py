import RSocketModel.Props.C14
import RSocketModel.Gen.LeaseFn
import RSocketModel.Gen.LeaseDrainFn
import RSocketModel.Gen.LeaseGateFn
/-!
# C14 — the lease test is the source's `DefinedLease._is_request_allowed`

`Lease.allow` (hand-written: an expired lease refuses without counting, otherwise the counter is
incremented first and compared with the grant) is proved equal to the function the translator
compiles from `rsocket/lease.py` on every run (`Gen/LeaseFn.lean`). Every C14 theorem goes through
`allow`, so they are re-checked against the current source of that method.
-/
namespace RSocketModel.Lease

/-- **`allow` is the source's `_is_request_allowed`**, for every lease state and every instant:
same verdict, same new value of the request counter. -/
theorem c14_allow_matches_source (l : LeaseSt) (now : Nat) :
    Gen.is_request_allowed l.created l.ttl now l.used l.max = ((allow l now).1, (allow l now).2.used) := by
  unfold Gen.is_request_allowed allow
  by_cases h : l.created + l.ttl ≤ now
  · simp [h]
  · simp only [h, decide_false, Bool.false_eq_true, if_false]
    by_cases h2 : l.used + 1 ≤ l.max
    · have : ¬ (l.used + 1 > l.max) := by omega
      simp [h2, this]
    · have : l.used + 1 > l.max := by omega
      simp [h2, this]

/-- consequences read off the source's function itself: an expired lease never allows and never
counts; a live one allows exactly while fewer than `max` requests were counted -/
theorem c14_source_expired_refuses (created ttl now counter max : Nat) (h : created + ttl ≤ now) :
    Gen.is_request_allowed created ttl now counter max = (false, counter) := by
  simp [Gen.is_request_allowed, h]

theorem c14_source_live_allows_iff (created ttl now counter max : Nat) (h : now < created + ttl) :
    (Gen.is_request_allowed created ttl now counter max).1 = true ↔ counter < max := by
  have h' : ¬ (created + ttl ≤ now) := by omega
  simp only [Gen.is_request_allowed, h', decide_false, Bool.false_eq_true, if_false]
  by_cases h2 : counter + 1 > max
  · simp [h2]; omega
  · simp [h2]; omega

/-- **`drain` is the source's loop in `handle_lease`**: for every lease just installed, every instant,
every queue of waiting requests and everything sent before, running the compiled `while` loop (with
enough fuel for the whole queue) ends with the same request counter, the same requests still waiting
and the same requests sent, in the same order, as the model's `drain`. -/
theorem c14_drain_matches_source (now : Nat) (q : List Nat) :
    ∀ (l : LeaseSt) (sent : List (Nat × Nat)) (fuel : Nat), q.length < fuel →
      Gen.handle_lease_drain l.created l.ttl now l.max fuel l.used q (sent.map (·.1)) =
        ((drain l now q sent).1.used, (drain l now q sent).2.1, (drain l now q sent).2.2.map (·.1)) := by
  induction q with
  | nil => intro l sent fuel hf; cases fuel <;> simp_all [Gen.handle_lease_drain, drain]
  | cons x rest ih =>
    intro l sent fuel hf
    cases fuel with
    | zero => simp at hf
    | succ f =>
      simp only [Gen.handle_lease_drain, List.isEmpty_cons, Bool.not_false, if_true, c14_allow_matches_source l now]
      by_cases hs : Spent l now
      · simp [drain_of_spent hs, (allow_of_spent hs).1]
      · have := ih { l with used := l.used + 1 } (sent ++ [(x, now)]) f (by simpa using hf)
        simpa [drain_of_not_spent hs, allow_of_not_spent hs] using this

/-- **the gate of `send_request` is the model's**: on a socket that honours leases a
request-initiating frame is handed to the sender exactly when `allow` says so, and the lease's
counter moves as in the model (`send_request` / `_is_frame_allowed_to_send` compiled from the source) -/
theorem c14_gate_matches_source (l : LeaseSt) (now : Nat) :
    Gen.send_request true true l.created l.ttl now l.used l.max = ((allow l now).1, (allow l now).2.used) := by
  have h := c14_allow_matches_source l now
  simp only [Gen.send_request, Gen.is_frame_allowed_to_send, if_true, h]
  cases (allow l now).1 <;> rfl

/-- a socket that does not honour leases never holds a frame back and never consults (so never
counts on) the lease — the guard a seeded change once dropped -/
theorem c14_source_no_lease_no_gate (isInitiate : Bool) (created ttl now counter max : Nat) :
    Gen.send_request false isInitiate created ttl now counter max = (true, counter) := by
  simp [Gen.send_request]

/-- frames that do not open a stream are never held and never counted, lease or not -/
theorem c14_source_only_requests_are_gated (honor : Bool) (created ttl now counter max : Nat) :
    Gen.send_request honor false created ttl now counter max = (true, counter) := by
  cases honor <;> simp [Gen.send_request, Gen.is_frame_allowed_to_send]

end RSocketModel.Lease
