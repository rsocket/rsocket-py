import RSocketModel.Proofs.C17Transports
/-!
# C17 — Reconnect yields a fresh, working connection
`reconnect` as processed by `_reconnect_listener` is `closeForReconnect` followed by `connect`.
All statements are for an arbitrary state `s` before the reconnect — whatever ended the previous
connection (server EOF, transport error, keepalive timeout with the liveness flag cleared, or a
healthy connection) and whatever was pending.
-/
namespace RSocketModel.Client

/-- **fresh connection**: every request pending on the old connection is failed, the new epoch
starts with only SETUP queued, nothing sent, stream ids restart from 1, the liveness flag is set,
and the sender waits for the next transport. -/
theorem c17_fresh_connection (s : State) :
    let s' := reconnect s
    (∀ id ∈ s.pending, id ∈ s'.failed) ∧ s'.pending = [] ∧ s'.queue = [.setup] ∧ s'.wire = [] ∧
    s'.nextId = 1 ∧ s'.alive = true ∧ s'.gate = false ∧ s'.connects = s.connects + 1 := by
  simp only [reconnect, step, List.mem_append, and_self, and_true]
  exact fun id h => Or.inr h

/-- **requests issued afterwards are served**: once the provider has yielded the next transport,
a request issued after the reconnect reaches that transport, right after SETUP, with id 1. -/
theorem c17_served (s : State) :
    (run (reconnect s) [.providerYields, .request, .senderStep, .senderStep]).wire = [.setup, .req 1] := by
  simp [reconnect, run, step]

/-- the same when the request is issued while the new transport is still being obtained -/
theorem c17_served_early_request (s : State) :
    (run (reconnect s) [.request, .providerYields, .senderStep, .senderStep]).wire = [.setup, .req 1] := by
  simp [reconnect, run, step]

/-- after a keepalive timeout the old sender stops after at most one more frame -/
theorem c17_timeout_stops_sender (s : State) (t : List Tag) :
    (run (step s .keepaliveTimeout) [.senderStep, .senderStep]).wire.length ≤ s.wire.length + 1 := by
  simp only [run, List.foldl_cons, List.foldl_nil, step]
  cases hg : (s.gate && s.armed) <;> cases hq : s.queue <;> simp [hg, hq]

/-- keepalives flow again after a reconnect that followed a keepalive timeout -/
theorem c17_keepalives_restart (s : State) :
    (run (step s .keepaliveTimeout |> reconnect) [.providerYields, .senderStep, .keepaliveTick, .senderStep]).wire
      = [.setup, .keepalive] := by
  simp [reconnect, run, step]

/-- **any number of consecutive reconnects** -/
theorem c17_any_number (s : State) (n : Nat) :
    let s' := (List.range (n + 1)).foldl (fun acc _ => reconnect acc) s
    s'.queue = [.setup] ∧ s'.wire = [] ∧ s'.nextId = 1 ∧ s'.alive = true ∧ s'.pending = [] := by
  induction n generalizing s with
  | zero => simp [reconnect, step]
  | succ k ih =>
    rw [List.range_succ_eq_map, List.foldl_cons]
    simp only [List.foldl_map]
    exact ih (reconnect s)

/-! ### the old transport is closed -/

/-- **closes the old transport**: whatever transport the connection was using when the reconnect
started is closed by it, and the client holds no transport until the provider yields the next. -/
theorem c17_old_transport_closed (s : State) (t : Nat) (h : s.current = some t) :
    t ∈ (reconnect s).closedT ∧ (reconnect s).current = none := by
  simp [reconnect, step, h]

/-- **Over every life-cycle history** (any number of reconnects, for whatever cause, with any
requests, keepalives, timeouts and sender steps in between): at most one transport is open - each
transport obtained from the provider earlier has been closed. -/
theorem c17_every_old_transport_closed (s : State) (h : TransInv s) (evs : List Ev) (hl : OneAtATime s evs) :
    TransInv (run s evs) := by
  induction evs generalizing s with
  | nil => exact h
  | cons e es ih =>
    simp only [run, List.foldl_cons]
    exact ih (step s e) (transInv_step s e h hl.1) hl.2

theorem c17_every_old_transport_closed_from_start (evs : List Ev) (hl : OneAtATime {} evs) (i : Nat)
    (hi : i < (run {} evs).taken) : (run {} evs).current = some i ∨ i ∈ (run {} evs).closedT :=
  (c17_every_old_transport_closed {} ⟨fun i hi => by simp at hi, fun t ht => by simp at ht⟩ evs hl).1 i hi

/-- Non-vacuity: three connections, ended by a healthy reconnect and by a keepalive timeout: transports 0 and 1 are closed, 2 is in use. -/
example : (run {} [.connect, .providerYields, .senderStep, .closeForReconnect, .connect, .providerYields, .keepaliveTimeout,
    .closeForReconnect, .connect, .providerYields]).closedT = [0, 1]
  ∧ (run {} [.connect, .providerYields, .senderStep, .closeForReconnect, .connect, .providerYields, .keepaliveTimeout,
    .closeForReconnect, .connect, .providerYields]).current = some 2 := by decide

theorem c17_counterexample_pre_f5 :
    ([Ev.connect, .providerYields, .senderStep, .keepaliveTimeout, .closeForReconnect, .connect, .providerYields,
      .request, .senderStep, .senderStep].foldl stepPreF5 {}).wire = [] := by decide

end RSocketModel.Client
