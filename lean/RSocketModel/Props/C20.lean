import RSocketModel.Proofs.C20Lemmas
import RSocketModel.Props.C06
/-!
# C20 — Rx / ReactiveX adapters are transparent
-/
namespace RSocketModel.RxAdapter

variable {α : Type}

/-- **delegation**: every handler entry point of both adapters calls the same-named method of the
delegate (table read from the adapters' source on every run) -/
theorem c20_delegation :
    (∀ r ∈ Gen.rx4AdapterDelegation, r.2 = "delegate." ++ r.1) ∧
    (∀ r ∈ Gen.rx3AdapterDelegation, r.2 = "delegate." ++ r.1) ∧
    (Gen.rx4AdapterDelegation.map (·.1)) = ["on_setup", "on_metadata_push", "request_channel", "request_fire_and_forget",
      "request_response", "request_stream", "on_error", "on_keepalive_timeout", "on_connection_error", "on_close"] ∧
    (["on_setup", "on_metadata_push", "request_channel", "request_fire_and_forget", "request_response", "request_stream"].all
      fun m => (Gen.rx3AdapterDelegation.map (·.1)).contains m) = true ∧
    Gen.rxSubscribersSameCode = true := by decide

/-- **transparent**: the observer is given exactly the elements the subscriber received, in order -/
theorem c20_transparent (s : Sub α) (evs : List (Ev α)) : (run s evs).observed = s.observed ++ delivered evs := by
  induction evs generalizing s with
  | nil => simp [run, delivered]
  | cons e es ih =>
    simp only [run, List.foldl_cons] at ih ⊢
    rw [ih]
    cases e with
    | next x c =>
      simp only [step, delivered]
      split
      · simp
      · split <;> simp
    | complete => simp [step, delivered]
    | error => simp [step, delivered]
    | trigger => simp only [step, delivered]; split <;> rfl

/-- **the request limit bounds how many elements are requested at a time**: at every moment the
credit outstanding at the publisher (requested and not yet delivered) is at most the limit -/
theorem c20_request_bounded (limit : Nat) (evs : List (Ev α)) (hl : PeerLegal (Sub.init limit) evs) :
    (run (Sub.init limit) evs).requested ≤ (run (Sub.init limit) evs).observed.length + limit := by
  obtain ⟨_, h, _⟩ := inv_run limit evs hl
  split at h <;> omega

/-- requests are always for exactly `limit` elements (the initial request-n and every REQUEST_N) -/
theorem c20_request_amounts (s : Sub α) (e : Ev α) :
    (step s e).requested = s.requested ∨ (step s e).requested = s.requested + s.limit := by
  cases e <;> simp only [step] <;> (try split) <;> (try split) <;> simp

/-- **a back-pressure-aware observable factory is asked for exactly the credited amounts** and is
completed on cancel -/
theorem c20_factory_gets_exact_credits (evs : List (Nat ⊕ Unit)) :
    feedbackOf evs = evs.map fun e => match e with | .inl n => .onNext n | .inr () => .onCompleted := by
  induction evs with
  | nil => rfl
  | cons e es ih => cases e with
    | inl n => simp [feedbackOf, ih]
    | inr u => cases u; simp [feedbackOf, ih]

/-- **elements of a plain observable reach the wire no faster than the requester's credit**:
the buffering puller is the credit model of C06 -/
theorem c20_wire_no_faster_than_credit (src : List α) (evs : List Credit.Ev) :
    (Credit.run (Credit.init src false false) evs).emitted.length ≤ (Credit.run (Credit.init src false false) evs).received :=
  Credit.c06_never_exceeds src false false evs

/-- non-vacuity: limit 2, five elements delivered as credit allows -/
example : PeerLegal (Sub.init 2 : Sub Nat) [.next 1 false, .next 2 false, .trigger, .next 3 false, .next 4 false, .trigger, .next 5 true] ∧
    (run (Sub.init 2 : Sub Nat) [.next 1 false, .next 2 false, .trigger, .next 3 false, .next 4 false, .trigger, .next 5 true]).requested = 6 := by
  decide

end RSocketModel.RxAdapter
