import RSocketModel.Proofs.C14Lemmas
import RSocketModel.Codec
/-!
# C14 — Lease: no request without a valid lease, never more than granted
Property theorems only. All statements are for every sequence of LEASE frames and requests at
non-decreasing virtual times.
-/
namespace RSocketModel.Lease

/-- **no request before the first LEASE** -/
theorem c14_none_before_first_lease (cap t0 : Nat) (evs : List Ev) (h : ∀ e ∈ evs, isRequest e = true) :
    (run (init cap t0) evs).sent = [] := by
  -- a lease that grants nothing is spent at every instant
  refine (List.foldl_inv (fun s : State => s.lease.max = 0 ∧ s.sent = []) (fun s e he ⟨hm, hs⟩ => ?_) ⟨rfl, rfl⟩).2
  exact step_cases (P := fun u => u.lease.max = 0 ∧ u.sent = []) s e
    (fun _ _ _ hn => absurd (.inr (hm ▸ Nat.zero_le _)) hn)
    (fun _ _ _ _ hc _ _ => ⟨hc.1 ▸ hm, hs⟩) (fun _ _ _ _ hc _ _ => ⟨hc.1 ▸ hm, hs⟩)
    (fun _ _ _ _ _ hl _ => by have := h e he; simp [hl, isRequest] at this)

/-- every newly sent request is stamped with the current time and that time is strictly before the
expiry of the lease in force: **nothing is sent after the time-to-live has elapsed** -/
theorem c14_none_after_ttl (s : State) (e : Ev) :
    ∀ x ∈ (step s e).sent, x ∈ s.sent ∨
      (x.2 = (step s e).now ∧ x.2 < (step s e).lease.created + (step s e).lease.ttl) := by
  refine step_cases (P := fun u => ∀ x ∈ u.sent, x ∈ s.sent ∨ (x.2 = u.now ∧ x.2 < u.lease.created + u.lease.ttl)) s e
    (fun tag t _ hn x hx => ?_) (fun _ _ _ _ _ _ _ x hx => .inl hx) (fun _ _ _ _ _ _ _ x hx => .inl hx)
    (fun n ttl t k l' _ ⟨_, _, _, _, hl, _⟩ x hx => ?_) <;>
    rcases List.mem_append.mp hx with h | h
  · exact .inl h
  · simp only [Spent, not_or, Nat.not_le] at hn
    rw [List.mem_singleton.mp h]; exact .inr ⟨rfl, hn.1⟩
  · exact .inl h
  · obtain ⟨r, hr, rfl⟩ := List.mem_map.mp h
    exact .inr ⟨rfl, hl (by rintro rfl; simp at hr)⟩

/-- **at most the granted number under each lease**: the number of requests sent since the latest
LEASE frame never exceeds the number it granted -/
theorem c14_at_most_granted (cap t0 : Nat) (evs : List Ev) :
    (run (init cap t0) evs).underLease ≤ (run (init cap t0) evs).lease.max := (inv_run cap t0 evs).2.1

theorem c14_at_most_granted_count (cap t0 : Nat) (pre : List Ev) (n ttl t : Nat) (post : List Ev)
    (h : ∀ e ∈ post, isRequest e = true) :
    (run (init cap t0) (pre ++ .lease n ttl t :: post)).sent.length - (run (init cap t0) pre).sent.length ≤ n := by
  have hrun : run (init cap t0) (pre ++ .lease n ttl t :: post) = run (step (run (init cap t0) pre) (.lease n ttl t)) post := by
    simp [run, List.foldl_append]
  rw [hrun]
  obtain ⟨h1, h2⟩ := underLease_spec (run (init cap t0) pre) n ttl t post h
  have := (hrun ▸ inv_run cap t0 _ : Inv (run (step (run (init cap t0) pre) (.lease n ttl t)) post)).2.1
  omega

/-- **FIFO, each request at most once**: requests that were not refused for lack of queue space
are, in arrival order, exactly the ones already sent followed by the ones still held -/
theorem c14_fifo_once (s : State) (h : Inv s) (e : Ev) :
    accepted (step s e) = accepted s ∨ ∃ tag t, e = .request tag t ∧ accepted (step s e) = accepted s ++ [tag] :=
  -- a request is granted only by a lease that is not spent, and then nothing is held: it does not overtake
  step_cases (P := fun u => accepted u = accepted s ∨ ∃ tag t, e = .request tag t ∧ accepted u = accepted s ++ [tag]) s e
    (fun tag t he hn => .inr ⟨tag, t, he, by simp [accepted, queue_nil_of_not_spent h hn]⟩)
    (fun _ _ _ _ _ _ _ => .inl rfl) (fun tag t _ he _ _ _ => .inr ⟨tag, t, he, by simp [accepted]⟩)
    (fun _ _ _ k _ _ _ => .inl (by simp [accepted, Function.comp_def]))

/-- requests are retained up to the configured queue size -/
theorem c14_retained_up_to_capacity (s : State) (tag t : Nat) (hc : s.capacity ≠ 0) (hq : s.queue.length ≤ s.capacity) :
    (step s (.request tag t)).queue.length ≤ s.capacity ∧
    ((step s (.request tag t)).rejected ≠ s.rejected → s.queue.length = s.capacity) :=
  step_cases (P := fun u => u.queue.length ≤ s.capacity ∧ (u.rejected ≠ s.rejected → s.queue.length = s.capacity))
    s (.request tag t) (fun _ _ _ _ => ⟨hq, fun h => absurd rfl h⟩) (fun _ _ _ _ _ _ hf => ⟨hq, fun _ => by omega⟩)
    (fun _ _ _ _ _ _ hf => ⟨by simp; omega, fun h => absurd rfl h⟩) nofun

/-- **the responder announces exactly what it publishes**: granted count unchanged, time-to-live
in milliseconds (whole-millisecond values) -/
theorem c14_announce_exact (n k : Nat) : announce n (1000 * k) = (n, k) := by
  unfold announce; congr 1; omega

/-- **no request vanishes**: over every history the tags that were sent or are still held, together
with the refused ones, are exactly (as a multiset) the tags of the requests made - whatever the
leases did in between (`drain_spec` is the step the drain loop of `handle_lease` has to get
right: a request taken off the queue is either sent or stays at the head) -/
theorem c14_no_request_lost (cap t0 : Nat) (evs : List Ev) :
    (accepted (run (init cap t0) evs) ++ (run (init cap t0) evs).rejected).Perm (requestedTags evs) := by
  suffices H : ∀ s : State, (accepted (run s evs) ++ (run s evs).rejected).Perm (accepted s ++ s.rejected ++ requestedTags evs) by
    simpa [init, accepted] using H (init cap t0)
  induction evs with
  | nil => intro s; simp [run, requestedTags]
  | cons e evs ih =>
    intro s
    have h1 := ih (step s e)
    have h2 := step_accounts s e
    simp only [run, List.foldl_cons] at h1 ⊢
    refine h1.trans ?_
    have : requestedTags (e :: evs) = requestedTags [e] ++ requestedTags evs := by
      cases e <;> simp [requestedTags]
    rw [this, ← List.append_assoc]
    exact List.Perm.append_right _ h2

/-- non-vacuity: lease of 2 for 100 ms, three requests held, two released in order, third held;
a later request does not overtake it -/
example : (run (init 0 0) [.request 1 0, .request 2 1, .request 3 2, .lease 2 100 10, .request 4 11]).sent = [(1, 10), (2, 10)] ∧
    (run (init 0 0) [.request 1 0, .request 2 1, .request 3 2, .lease 2 100 10, .request 4 11]).queue = [3, 4] := by decide

end RSocketModel.Lease

namespace RSocketModel.Codec

/-! ### what a received LEASE frame grants: the reserved top bit of both fields is not part of the value -/

/-- Decoding a LEASE frame of at least 8 body bytes: time-to-live and number of requests are the
two 32-bit words *modulo 2^31* - whatever the reserved top bits carry, the requester is granted
the 31-bit values, both below 2^31. -/
theorem c14_lease_reserved_bits_ignored (h : Header) (hty : h.ty = 2) (buf : Bytes) (hl : 8 ≤ buf.length) :
    parseBody h buf = .ok (.lease h.sid h.ign (beVal (buf.take 4) % 2 ^ 31) (beVal ((buf.drop 4).take 4) % 2 ^ 31)
      (if h.m then buf.drop 8 else [])) := by
  have h4 : 4 ≤ buf.length := by omega
  have h4' : 4 ≤ buf.length - 4 := by omega
  simp [parseBody, hty, readBE, h4, h4', bind, R.bind, pure, List.drop_drop]

theorem c14_lease_fields_below_2_31 (h : Header) (hty : h.ty = 2) (buf : Bytes) (f : Frame) (hp : parseBody h buf = .ok f) :
    ∃ t n md, f = .lease h.sid h.ign t n md ∧ t < 2 ^ 31 ∧ n < 2 ^ 31 := by
  by_cases hl : 8 ≤ buf.length
  · rw [c14_lease_reserved_bits_ignored h hty buf hl] at hp
    cases hp
    exact ⟨_, _, _, rfl, Nat.mod_lt _ (by decide), Nat.mod_lt _ (by decide)⟩
  · exfalso
    by_cases h4 : 4 ≤ buf.length
    · have h4' : ¬ 4 ≤ buf.length - 4 := by omega
      simp [parseBody, hty, readBE, h4, h4', bind, R.bind] at hp
    · simp [parseBody, hty, readBE, h4, bind, R.bind] at hp

/-- Non-vacuity: ttl word 0x80000064, requests word 0x80000002: granted 100 ms and 2 requests. -/
example : decode [0, 0, 0, 0, 0x08, 0, 0x80, 0, 0, 0x64, 0x80, 0, 0, 2] = .frame (.lease 0 false 100 2 []) := by decide

end RSocketModel.Codec
