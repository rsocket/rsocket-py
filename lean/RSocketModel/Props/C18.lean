import RSocketModel.Proofs.C18Lemmas
/-!
# C18 — Extension metadata codecs round-trip within format limits

Property theorems only. Tables are the regenerated ones (`Gen/Tables.lean`).
-/
namespace RSocketModel.Composite

/-- **tables map one-to-one.** The enum rows with non-negative ids, the id→name dictionary and the
name→id dictionary are the same table; ids fit 7 bits; both lookups invert each other on every
row (hence ids and names are pairwise distinct). Same for the authentication types. Decided over
the whole regenerated tables. -/
theorem c18_tables_bijective :
    Gen.mimeById = Gen.mimeTable ∧ Gen.mimeByName = Gen.mimeTable ∧ TableOK Gen.mimeTable ∧
    Gen.authById = Gen.authTable ∧ Gen.authByName = Gen.authTable ∧ TableOK Gen.authTable := by
  refine ⟨by decide +kernel, by decide +kernel, by decide +kernel, by decide, by decide, by decide⟩

/-- the sentinel rows are not well-known types: they carry negative ids -/
theorem c18_sentinels_excluded : ∀ p ∈ Gen.mimeSentinels, 0 < p.1 ∧ lookupId Gen.mimeTable p.2 = none := by
  decide +kernel

/-- the special item classes are registered under the names the model uses -/
theorem c18_item_classes :
    Gen.itemFactory = [(nameAccept, "StreamDataMimetypes"), (nameAuth, "AuthenticationContent"),
                       (nameMime, "StreamDataMimetype"), (nameRouting, "RoutingMetadata")] ∧
    Gen.authFactory = [(nameBearer, "AuthenticationBearer"), (nameSimple, "AuthenticationSimple")] ∧
    (lookupId Gen.authTable nameSimple).isSome ∧ (lookupId Gen.authTable nameBearer).isSome := by
  decide +kernel

/-- **MIME type header**: every well-known type and every custom name of 1–128 bytes -/
theorem c18_mime_roundtrip (name e rest : Bytes) (hwf : WFName Gen.mimeTable name)
    (he : encodeMime Gen.mimeTable name = some e) :
    decodeMime Gen.mimeTable (e ++ rest) = .ok (name, rest) :=
  decodeMime_encodeMime _ c18_tables_bijective.2.2.1 name e rest hwf he

/-- a name within limits always encodes -/
theorem c18_mime_encodes (t : Table) (name : Bytes) (hwf : WFName t name) : (encodeMime t name).isSome := by
  unfold encodeMime
  cases h : lookupId t name with
  | some id => simp
  | none =>
    rcases hwf with h' | h'
    · simp [h] at h'
    · have : ¬ (128 < name.length) := by omega
      simp [this]

/-- **over-long MIME names are rejected at encode time** (no bytes produced) -/
theorem c18_overlong_mime_rejected (t : Table) (name : Bytes) (hl : 128 < name.length)
    (hn : lookupId t name = none) : encodeMime t name = none := by
  simp [encodeMime, hn, hl]

/-- **over-long tags are rejected at encode time** -/
theorem c18_overlong_tag_rejected (pre : List Bytes) (tag : Bytes) (post : List Bytes)
    (hl : 255 < tag.length) : encodeTags (pre ++ tag :: post) = none :=
  Option.not_isSome_iff_eq_none.mp fun h => absurd ((encodeTags_isSome _).mp h tag (by simp)) (by omega)

/-- **tag lists** (routing): every list of tags of at most 255 bytes each encodes and decodes back -/
theorem c18_tags_roundtrip (tags : List Bytes) (h : ∀ t ∈ tags, t.length ≤ 255) :
    ∃ e, encodeTags tags = some e ∧ decodeTags e = tags := by
  obtain ⟨e, he⟩ := Option.isSome_iff_exists.mp ((encodeTags_isSome tags).mpr h)
  exact ⟨e, he, decodeTags_encodeTags tags e he⟩

/-- **every entry kind** decodes back from its content -/
theorem c18_item_roundtrip (it : Item) (c : Bytes) (hwf : WFItem it)
    (hc : it.content Gen.mimeTable Gen.authTable = some c) :
    decodeItem Gen.mimeTable Gen.authTable it.mime c = .ok it := by
  obtain ⟨d1, d2, d3, d4, d5, d6, d7⟩ := names_distinct
  obtain ⟨_, _, hmt, _, _, hat⟩ := c18_tables_bijective
  cases it with
  | raw m body =>
    obtain ⟨_, h1, h2, h3, h4⟩ := hwf
    simp only [Item.content, Option.some.injEq] at hc
    subst hc
    simp [decodeItem, Item.mime, h1, h2, h3, h4]
  | routing tags =>
    simp only [Item.content] at hc
    simp [decodeItem, Item.mime, decodeTags_encodeTags tags c hc]
  | dataMime m =>
    simp only [Item.content] at hc
    have := decodeMime_encodeMime _ hmt m c [] hwf hc
    simp only [List.append_nil] at this
    simp [decodeItem, Item.mime, d1, this]
  | acceptMimes ms =>
    simp only [Item.content] at hc
    have := decodeMimes_encodeMimes _ hmt ms c hwf hc
    simp [decodeItem, Item.mime, d2, d3, this]
  | authSimple u p =>
    simp only [Item.content, Option.map_eq_some_iff] at hc
    obtain ⟨h, hh, rfl⟩ := hc
    have := decodeMime_encodeMime _ hat nameSimple h (beBytes 2 u.length ++ (u ++ p)) (Or.inl c18_item_classes.2.2.1) hh
    obtain ⟨l1, l2, l3⟩ := lenPrefixed 2 u p hwf
    simp only [decodeItem, Item.mime, d4, d5, d6, beq_self_eq_true, if_true, List.append_assoc, this, R.bind_ok,
      beq_iff_eq, if_false, Nat.not_lt.mpr l1, l2, l3]
  | authBearer tok =>
    simp only [Item.content, Option.map_eq_some_iff] at hc
    obtain ⟨h, hh, rfl⟩ := hc
    have := decodeMime_encodeMime _ hat nameBearer h tok (Or.inl c18_item_classes.2.2.2) hh
    simp [decodeItem, Item.mime, d4, d5, d6, d7, this]

/-- **composite metadata**: every list of entries of every kind, within the format's limits
(names 1–128 bytes or well-known, tags ≤ 255 bytes, user name < 2^16, entry content < 2^24
bytes), survives encode then decode unchanged. -/
theorem c18_composite_roundtrip (items : List Item) (e : Bytes)
    (hwf : ∀ it ∈ items, WFItem it ∧ ∀ c, it.content Gen.mimeTable Gen.authTable = some c → c.length < 2 ^ 24)
    (he : encode Gen.mimeTable Gen.authTable items = some e) :
    decode Gen.mimeTable Gen.authTable e = .ok items := by
  induction items generalizing e with
  | nil => cases he; exact decode_nil _ _
  | cons it rest ih =>
    obtain ⟨hit, hlen⟩ := hwf it (by simp)
    simp only [encode, Option.bind_eq_bind, Option.bind_eq_some_iff, Option.pure_def, Option.some.injEq] at he
    obtain ⟨h, hh, c, hc, r, hr, rfl⟩ := he
    have hpos := encodeMime_length_pos _ _ _ hh
    obtain ⟨l1, l2, l3⟩ := lenPrefixed 3 c r (hlen c hc)
    simp only [List.append_assoc]
    rw [decode, dif_neg (by simp only [List.length_append]; omega),
      decodeMime_encodeMime _ c18_tables_bijective.2.2.1 it.mime h _ (item_mime_wf it hit) hh]
    simp only [dif_neg (Nat.not_lt.mpr l1), l2, l3]
    rw [dif_pos (by simp only [List.length_append]; omega), c18_item_roundtrip it c hit hc,
      ih r (fun x hx => hwf x (by simp [hx])) hr]
    rfl

/-- decode then encode reproduces the bytes (for every encoding of an in-range value) -/
theorem c18_reencode (items : List Item) (e : Bytes)
    (hwf : ∀ it ∈ items, WFItem it ∧ ∀ c, it.content Gen.mimeTable Gen.authTable = some c → c.length < 2 ^ 24)
    (he : encode Gen.mimeTable Gen.authTable items = some e) :
    ∃ items', decode Gen.mimeTable Gen.authTable e = .ok items' ∧
      encode Gen.mimeTable Gen.authTable items' = some e :=
  ⟨items, c18_composite_roundtrip items e hwf he, he⟩

/-- non-vacuity: a composite with every entry kind is within limits -/
example : ∀ it ∈ [Item.routing [[1, 2], []], .dataMime Gen.nameComposite, .acceptMimes [[120], Gen.nameRouting],
    .authSimple [117] [112], .authBearer [116], .raw [120, 47, 121] [1, 2, 3]], WFItem it := by
  decide +kernel

end RSocketModel.Composite
