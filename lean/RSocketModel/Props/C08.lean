import RSocketModel.Props.C09
import RSocketModel.Engine.WireLegal
import RSocketModel.Props.C05
import RSocketModel.Proofs.Credit
/-!
# C08 — Frames emitted are legal RSocket for the emitter's role  (**partial**)

The full statement — *after it has emitted ERROR or a requester's CANCEL … it emits nothing
further on that stream* — is **false of the code** for request-channel (half-close: only one
direction is closed; `c08_half_close_counterexample` is the model-level witness, replayed against
the implementation by the C08 check and recorded as known finding F16), and for lease-gated
requests (F10, outside the engine model). What is proved here, for every reachable state and every
event, are the other clauses:

* `c08_opens_with_request_own_parity` — a stream the endpoint opens gets a fresh, non-zero id of
  its own parity and its first frame is the request frame;
* `c08_positive_initial_request_n` — every REQUEST_STREAM / REQUEST_CHANNEL it emits carries n > 0;
* `c08_types_per_role_api`, `c08_types_on_receive`, `c08_no_frames_on_loss` — which frame types
  each role emits, and on which stream;
* `c08_connection_frames_on_stream_zero`;
* `c08_unregistered_stream_silent_partial` — frames for a stream that is no longer registered
  (after a terminal exchange) trigger no emission;
* `c08_own_terminal_unregisters`, `c08_nothing_after_own_terminal_from_peer` — for request-response
  and request-stream in both roles the termination clause holds as far as the library decides it:
  queueing its own terminal frame unregisters the stream, and nothing the peer sends afterwards makes
  the endpoint emit on it again (only the application calling the finished object again could).
SETUP-first-and-once is C16's theorem on the client model.
-/
namespace RSocketModel.Engine

/-! ### opening a stream -/

/-- the request methods: the only frame queued is the request frame, on a fresh non-zero stream
id of the endpoint's own parity (or nothing is queued and the caller gets an exception) -/
theorem c08_opens_with_request_own_parity (st : State) (h : Inv08 st) (hc : st.closed = false) (ev : Ev)
    (hev : (∃ d, ev = .requestResponse d) ∨ (∃ d, ev = .fireAndForget d) ∨ (∃ d n s, ev = .requestStream d n s) ∨
      (∃ d n p s, ev = .requestChannel d n p s)) :
    ∀ g, Out.send g ∈ (step st ev).2 →
      isInitiate g.ty = true ∧ g.sid ≠ 0 ∧ g.sid % 2 = st.first % 2 ∧ st.isActive g.sid = false ∧
      (step st ev).2.filter (fun o => match o with | .send _ => true | _ => false) = [.send g] := by
  intro g hg
  have hg := mem_emit _ _ _ hg
  have key : ∀ sid st1, allocate st = (some sid, st1) → g.sid = sid → g.sid ≠ 0 ∧ g.sid % 2 = st.first % 2 ∧ st.isActive g.sid = false := by
    intro sid st1 ha e
    obtain ⟨a, b, c, _⟩ := allocate_sound st h sid st1 ha
    rw [e]; exact ⟨a, b, c⟩
  rcases hev with ⟨d, rfl⟩ | ⟨d, rfl⟩ | ⟨d, n, s, rfl⟩ | ⟨d, n, p, s, rfl⟩
  · simp only [apiStep] at hg
    simp only [step, apiStep, State.emit, hc]
    rcases hal : allocate st with ⟨o, st1⟩
    rw [hal] at hg
    cases o with
    | none => simp at hg
    | some sid =>
      simp only [List.mem_cons, reduceCtorEq, Out.send.injEq, List.mem_nil_iff, or_false, false_or] at hg
      subst hg
      refine ⟨rfl, (key sid st1 hal rfl).1, (key sid st1 hal rfl).2.1, (key sid st1 hal rfl).2.2, ?_⟩
      simp [List.filter]
  · simp only [apiStep] at hg
    simp only [step, apiStep, State.emit, hc]
    rcases hal : allocate st with ⟨o, st1⟩
    rw [hal] at hg
    cases o with
    | none => simp at hg
    | some sid =>
      simp only [List.mem_cons, Out.send.injEq, List.mem_nil_iff, or_false] at hg
      subst hg
      refine ⟨rfl, (key sid st1 hal rfl).1, (key sid st1 hal rfl).2.1, (key sid st1 hal rfl).2.2, ?_⟩
      simp [List.filter]
  · simp only [apiStep] at hg
    simp only [step, apiStep, State.emit, hc]
    rcases hal : allocate st with ⟨o, st1⟩
    rw [hal] at hg
    cases o with
    | none => simp at hg
    | some sid =>
      simp only at hg ⊢
      split at hg
      · simp at hg
      · split at hg
        · simp only [List.mem_cons, reduceCtorEq, Out.send.injEq, List.mem_nil_iff, or_false, false_or] at hg
          subst hg
          refine ⟨rfl, (key sid st1 hal rfl).1, (key sid st1 hal rfl).2.1, (key sid st1 hal rfl).2.2, ?_⟩
          simp_all [List.filter]
        · simp at hg
  · simp only [apiStep] at hg
    simp only [step, apiStep, State.emit, hc]
    rcases hal : allocate st with ⟨o, st1⟩
    rw [hal] at hg
    cases o with
    | none => simp at hg
    | some sid =>
      simp only at hg ⊢
      split at hg
      · simp at hg
      · split at hg
        · have hgs : g = { ty := .requestChannel, sid := sid, n := n, data := d, complete := !p } := by
            cases p <;> simp at hg <;> exact hg
          subst hgs
          refine ⟨rfl, (key sid st1 hal rfl).1, (key sid st1 hal rfl).2.1, (key sid st1 hal rfl).2.2, ?_⟩
          cases p <;> simp_all [List.filter]
        · simp at hg

/-- **stream and channel requests carry a positive initial request-n** — every such frame ever
queued, over every run from the initial state of either role -/
theorem c08_positive_initial_request_n (first : Nat) (hf : 1 ≤ first) (lp : Bool) (evs : List Ev) (ev : Ev) (g : Frame)
    (hg : Out.send g ∈ (step (run (init first lp) evs).1 ev).2) (hty : g.ty = .requestStream ∨ g.ty = .requestChannel) :
    0 < g.n := by
  have := (step_preds _ (wf_run evs _ (wf_init first lp)) (inv08_run evs _ (inv08_init first hf lp)) ev _ hg).1
  simp only [Out.sendAll, pN] at this
  rcases hty with h | h <;> simpa [h] using this

/-- **connection-level frames use stream 0 only** -/
theorem c08_connection_frames_on_stream_zero (first : Nat) (hf : 1 ≤ first) (lp : Bool) (evs : List Ev) (ev : Ev) (g : Frame)
    (hg : Out.send g ∈ (step (run (init first lp) evs).1 ev).2) (hty : isConnectionLevel g.ty = true) : g.sid = 0 := by
  have := (step_preds _ (wf_run evs _ (wf_init first lp)) (inv08_run evs _ (inv08_init first hf lp)) ev _ hg).2
  simpa [Out.sendAll, pZero, hty] using this

/-- while a received frame is processed the endpoint queues only ERROR, a KEEPALIVE echo, or the
empty complete PAYLOAD with which a channel responder without a publisher closes its direction —
and (C12 `c12_sends_local`) only on that frame's stream -/
theorem c08_types_on_receive (st : State) (hw : WF st) (f : Frame) (b : Behaviour) (g : Frame)
    (hg : Out.send g ∈ (step st (.recv f b)).2) :
    (g.ty = .error ∨ g.ty = .keepalive ∨ g = mkPayload g.sid [] true) ∧ g.sid = f.sid := by
  refine ⟨?_, c12_sends_local st hw f b g hg⟩
  have := (recvStep_preds st hw f b _ (mem_emit _ _ _ hg)).2.2
  simpa [Out.sendAll, pRecvTypes, or_assoc] using this

/-- connection loss and `stop_all_streams` queue no frame at all -/
theorem c08_no_frames_on_loss (st : State) (g : Frame) :
    Out.send g ∉ (step st .lost).2 ∧ Out.send g ∉ (step st .stopStreams).2 := by
  constructor
  · intro hg
    have hg := mem_emit _ _ _ hg
    simp only [lostStep] at hg
    split at hg
    · simp at hg
    · simp only [List.mem_append, List.mem_singleton] at hg
      rcases hg with hg | hg
      · exact stopAll_targets st.table st _ hg rfl
      · cases hg
  · intro hg
    exact stopAll_targets st.table st _ (mem_emit _ _ _ hg) rfl

/-- the frame types each role may emit after the request frame -/
def allowed : Kind → FType → Bool
  | .rrReq, t => t == .cancel
  | .stReq, t => t == .requestStream || t == .requestN || t == .cancel
  | .chReq, t => t == .requestChannel || t == .payload || t == .requestN || t == .cancel || t == .error
  | .rrResp, t => t == .payload || t == .error
  | .stResp, t => t == .payload || t == .error
  | .chResp, t => t == .payload || t == .requestN || t == .cancel || t == .error

/-- **per-role frame types**: whatever the application does with a handler object (subscribe,
request, cancel, publisher signals, future resolutions, done-callbacks), the frames queued are on
that object's stream and of a type its role allows -/
theorem c08_types_per_role_api (st : State) (ev : Ev) (oid : Nat) (s : Stream) (ho : st.obj oid = some s)
    (hev : ev = .subscribe oid ∨ (∃ n, ev = .subRequest oid n) ∨ ev = .subCancel oid ∨ ev = .futCancel oid ∨
      (∃ d c, ev = .pubNext oid d c) ∨ ev = .pubComplete oid ∨ ev = .pubError oid ∨ (∃ d, ev = .hfResolve oid d) ∨
      ev = .hfFail oid ∨ ev = .cbRRReq oid ∨ ev = .cbRRResp oid) :
    ∀ g, Out.send g ∈ (step st ev).2 → g.sid = s.sid ∧ allowed s.kind g.ty = true := by
  intro g hg
  have hg := mem_emit _ _ _ hg
  rcases hev with rfl | ⟨n, rfl⟩ | rfl | rfl | ⟨d, c, rfl⟩ | rfl | rfl | ⟨d, rfl⟩ | rfl | rfl | rfl <;>
    simp only [apiStep, ho] at hg <;> (repeat' split at hg) <;>
    simp_all [allowed, mkRequestN, mkCancel, mkPayload, mkError]
  all_goals (try (rcases hg with hg | hg <;> simp_all [allowed]))

/-! ### after termination -/

/-- (partial) a frame for a stream that is not (or no longer) registered triggers no emission:
REQUEST_N, CANCEL, ERROR and unfragmented PAYLOAD for an unknown stream are dropped -/
theorem c08_unregistered_stream_silent_partial (st : State) (hc : st.closed = false) (f : Frame) (b : Behaviour)
    (h0 : f.sid ≠ 0) (hna : st.oidOf f.sid = none)
    (hty : f.ty = .requestN ∨ f.ty = .cancel ∨ f.ty = .error ∨
      (f.ty = .payload ∧ f.follows = false ∧ st.cache.find? (·.1 == f.sid) = none)) :
    (step st (.recv f b)).2 = [.drop f.sid] := by
  rcases hty with h | h | h | ⟨h, hf, hcache⟩
  · simp [step, recvStep, hc, isFragmentable, h, h0, isInitiate, hna, State.emit]
  · simp [step, recvStep, hc, isFragmentable, h, h0, isInitiate, hna, State.emit]
  · simp [step, recvStep, hc, isFragmentable, h, h0, isInitiate, hna, State.emit]
  · simp [step, recvStep, hc, isFragmentable, h, h0, isInitiate, hna, State.emit, cacheAppend, hf, hcache]

/-- **own terminal frame ⇒ the stream is closed locally** (request-response and request-stream,
both roles): when a handler object queues its terminal frame — a requester's CANCEL, a responder's
ERROR or complete PAYLOAD — its stream id is no longer registered afterwards -/
theorem c08_own_terminal_unregisters (st : State) (ev : Ev) (oid : Nat) (s : Stream) (ho : st.obj oid = some s)
    (hk : s.kind = .rrReq ∨ s.kind = .stReq ∨ s.kind = .rrResp ∨ s.kind = .stResp)
    (hev : ev = .subCancel oid ∨ ev = .cbRRReq oid ∨ (∃ d c, ev = .pubNext oid d c) ∨ ev = .pubComplete oid ∨ ev = .pubError oid ∨
      ev = .cbRRResp oid)
    (g : Frame) (hg : Out.send g ∈ (step st ev).2)
    (hterm : g.ty = .cancel ∨ g.ty = .error ∨ (g.ty = .payload ∧ g.complete = true)) :
    (step st ev).1.isActive s.sid = false := by
  have hg := mem_emit _ _ _ hg
  rcases hev with rfl | rfl | ⟨d, c, rfl⟩ | rfl | rfl | rfl <;>
    simp only [step, apiStep, ho] at hg ⊢ <;>
    rcases hk with hk | hk | hk | hk <;> simp only [hk] at hg ⊢ <;> (repeat' split at hg) <;>
    simp_all [isActive_finish, mkCancel, mkPayload, mkError]

/-- … so nothing the peer sends on that stream afterwards makes the endpoint emit again
(REQUEST_N, CANCEL, ERROR, whole PAYLOAD frames are dropped): after its own terminal frame the
endpoint emits on that stream only if the application itself calls the finished object again -/
theorem c08_nothing_after_own_terminal_from_peer (st : State) (hc : st.closed = false) (ev : Ev) (oid : Nat) (s : Stream)
    (ho : st.obj oid = some s) (hk : s.kind = .rrReq ∨ s.kind = .stReq ∨ s.kind = .rrResp ∨ s.kind = .stResp)
    (hev : ev = .subCancel oid ∨ ev = .cbRRReq oid ∨ (∃ d c, ev = .pubNext oid d c) ∨ ev = .pubComplete oid ∨ ev = .pubError oid ∨
      ev = .cbRRResp oid)
    (g : Frame) (hg : Out.send g ∈ (step st ev).2)
    (hterm : g.ty = .cancel ∨ g.ty = .error ∨ (g.ty = .payload ∧ g.complete = true))
    (f : Frame) (b : Behaviour) (hsid : f.sid = s.sid) (h0 : f.sid ≠ 0)
    (hty : f.ty = .requestN ∨ f.ty = .cancel ∨ f.ty = .error ∨
      (f.ty = .payload ∧ f.follows = false ∧ (step st ev).1.cache.find? (·.1 == f.sid) = none)) :
    (step (step st ev).1 (.recv f b)).2 = [.drop f.sid] := by
  have hact := c08_own_terminal_unregisters st ev oid s ho hk hev g hg hterm
  have hcl : (step st ev).1.closed = false := by
    rcases hev with rfl | rfl | ⟨d, c, rfl⟩ | rfl | rfl | rfl <;>
      simp only [step, apiStep, ho] <;> (repeat' split) <;> simp_all
  have hna : (step st ev).1.oidOf f.sid = none := by
    rw [hsid]
    simp only [State.isActive, List.any_eq_false] at hact
    simp only [State.oidOf, Option.map_eq_none_iff, List.find?_eq_none]
    exact fun p hp => by simpa using hact p hp
  exact c08_unregistered_stream_silent_partial _ hcl f b h0 hna hty

/-- **the full termination clause is false for request-channel** (known finding F16): a channel
requester whose publisher fails emits ERROR, and a later `request(n)` of its subscriber still
emits REQUEST_N on the same stream -/
theorem c08_half_close_counterexample :
    (run (init 1) [.requestChannel [1] 3 true true, .pubError 0, .subRequest 0 5]).2 =
      [[.created 0 1, .pubSubscribe 0, .send { ty := .requestChannel, sid := 1, n := 3, data := [1] }, .onSubscribe 0],
       [.send (mkError 1 cApplicationError)],
       [.send (mkRequestN 1 5)]] := by decide +kernel

/-! ### the request frame precedes on_subscribe (defect F18, repaired by 315146e) -/

/-- whichever requester entry point hands the application its subscription (`on_subscribe`) has,
in the same entry point and immediately before, queued the request frame of that stream: whatever
the subscriber does inside `on_subscribe` (request(n), cancel) is queued after the frame that opens
the stream (before the repair REQUEST_N / CANCEL could overtake it: F18). -/
theorem c08_request_frame_precedes_on_subscribe (st : State) (hc : st.closed = false) (ev : Ev)
    (hev : (∃ d n, ev = .requestStream d n true) ∨ (∃ d n p, ev = .requestChannel d n p true) ∨ (∃ o, ev = .subscribe o))
    (oid : Nat) (h : Out.onSubscribe oid ∈ (step st ev).2) :
    ∃ a g, isInitiate g.ty = true ∧ (step st ev).2 = a ++ [.send g, .onSubscribe oid] := by
  rcases hev with ⟨d, n, rfl⟩ | ⟨d, n, p, rfl⟩ | ⟨o, rfl⟩
  · have hs : (step st (.requestStream d n true)).2 = (apiStep st (.requestStream d n true)).2 := by simp [step, State.emit, hc]
    rw [hs] at h ⊢
    simp only [apiStep] at h ⊢
    generalize allocate st = r at h ⊢
    rcases r with ⟨_ | sid, st1⟩ <;> simp only at h ⊢
    · simp at h
    · by_cases hn : n = 0
      · simp [hn] at h
      · simp only [hn, if_false, if_true] at h ⊢
        simp only [List.mem_cons, reduceCtorEq, Out.onSubscribe.injEq, List.mem_nil_iff, or_false, false_or] at h
        subst h
        exact ⟨[.created _ sid], _, rfl, rfl⟩
  · have hs : (step st (.requestChannel d n p true)).2 = (apiStep st (.requestChannel d n p true)).2 := by simp [step, State.emit, hc]
    rw [hs] at h ⊢
    simp only [apiStep] at h ⊢
    generalize allocate st = r at h ⊢
    rcases r with ⟨_ | sid, st1⟩ <;> simp only at h ⊢
    · simp at h
    · by_cases hn : n = 0
      · simp [hn] at h
      · simp only [hn, if_false, if_true] at h ⊢
        cases p <;> simp at h <;> subst h
        · refine ⟨[_], _, ?_, rfl⟩; rfl
        · refine ⟨[_, _], _, ?_, rfl⟩; rfl
  · have hs : (step st (.subscribe o)).2 = (apiStep st (.subscribe o)).2 := by simp [step, State.emit, hc]
    rw [hs] at h ⊢
    simp only [apiStep] at h ⊢
    split at h
    · rename_i s hso
      split at h
      · simp at h
      · rename_i hsub
        cases hk : s.kind <;> simp only [hk] at h ⊢
        all_goals try (simp at h; done)
        · simp at h; subst h
          rw [if_neg hsub]
          refine ⟨[], _, ?_, rfl⟩; rfl
        · cases hp : s.pubGiven <;> simp [hp] at h <;> subst h
          · rw [if_neg hsub]; simp only
            refine ⟨[], _, ?_, rfl⟩; rfl
          · rw [if_neg hsub]; simp only
            refine ⟨[_], _, ?_, rfl⟩; rfl
    · simp at h

example : (step (init 1) (.requestStream [1] 2 true)).2 =
    [.created 0 1] ++ [.send { ty := .requestStream, sid := 1, n := 2, data := [1] }, .onSubscribe 0] := by decide +kernel

/-! ### from queueing order to wire order -/

/-- every per-stream fact above is about the order in which the engine *queues* frames
(`Out.send`). The sender task (C05, instantiated with the engine's frames cut into any number ≥ 1
of fragments) puts the fragments of one stream on the wire in exactly that order, each frame's
fragments contiguous within the stream — so the same facts hold of the wire, stream by stream. -/
theorem c08_wire_order_is_queue_order (evs : List (SendQueue.Ev (Frame × Nat))) (h : SendQueue.Legal SendQueue.init evs)
    (hq : (SendQueue.run SendQueue.init evs).queue = []) (sid : Nat) :
    SendQueue.wireOf sid (SendQueue.run SendQueue.init evs).wire = SendQueue.queuedFor sid evs :=
  SendQueue.c05_drained_exact evs h hq sid

end RSocketModel.Engine

/-! ### the library's own stream sources behind a responder (`Credit.lean`) -/
namespace RSocketModel.Credit

variable {α : Type}

/-- **Nothing after the terminal signal, at the source.** For every source (any elements, flagging
its last element complete or not, failing or not) and every interleaving of credit, producer,
feeder and cancel events: once the subscriber (the endpoint's sender of PAYLOAD / COMPLETE / ERROR
frames) has been given a terminal signal, no later event gives it anything more - no element and no
second terminal signal (in particular no ERROR after an element that was flagged complete). -/
theorem c08_source_nothing_after_terminal (src : List α) (f e : Bool) (evs evs' : List Ev)
    (ht : (run (init src f e) evs).terminal ≠ none) :
    (run (init src f e) (evs ++ evs')).emitted = (run (init src f e) evs).emitted ∧
    (run (init src f e) (evs ++ evs')).terminal = (run (init src f e) evs).terminal := by
  have hrun : run (init src f e) (evs ++ evs') = run (run (init src f e) evs) evs' := by
    simp [run, List.foldl_append]
  rw [hrun]
  exact run_after_terminal _ (tinv_run (init src f e) evs (tinv_init src f e)) ht evs'

/-- the producer stops with the item that ends the stream: a source that flags its last element
pulls nothing further from the generator (so a generator that would raise there is never resumed) -/
theorem c08_source_stops_at_flagged_element (s : State α) (hinv : TInv s) (x : α) (hs : s.src = [x]) (hf : s.flagged = true)
    (hc : s.cancelled = false) (hd : s.producerDone = false) (hcur : s.cur ≠ 0) (evs : List Ev) :
    (run (step s .produce) evs).src = [] ∧ (run (step s .produce) evs).producerDone = true ∧
    ∀ i ∈ (run (step s .produce) evs).outQ, i ≠ .error := by
  have hp := step_produce s hc hd hcur
  rw [show nextItem s = .elem x true by simp [nextItem, hs, hf]] at hp
  obtain ⟨g1, g2, g3⟩ := run_done (step s .produce) (by rw [hp]; rfl) evs
  refine ⟨g2.trans (by simp [hp, hs]), g1, fun i hi => ?_⟩
  have hi := g3 i hi
  rw [hp] at hi
  rcases List.mem_append.mp hi with h | h
  · rintro rfl; exact absurd ((hinv.1 hd).1 _ h) (by simp [Item.isTerminal])
  · rintro rfl; simp at h

/-- Non-vacuity: a two-element source that flags its last element and would fail afterwards: the failure is never produced. -/
example : (run (init [1, 2] true true) [.request 5, .produce, .produce, .feed, .produce, .feed, .produce, .feed, .produce]).terminal = some true
    ∧ (run (init [1, 2] true true) [.request 5, .produce, .produce, .feed, .produce, .feed, .produce, .feed, .produce]).emitted = [1, 2]
    ∧ (run (init [1, 2] true true) [.request 5, .produce, .produce, .feed, .produce, .feed, .produce, .feed, .produce]).outQ = [] := by decide

end RSocketModel.Credit
